import JivaVerif.Generated.Facts
import JivaVerif.Expected
import JivaVerif.Model.Controller
import JivaVerif.Model.Rpc
import JivaVerif.Model.Cluster
/-!
# Tie (T1): the regenerated facts agree with what the models use

`Generated/Facts.lean` is rewritten from /repo's working tree on every run.  The lemmas here are
re-checked against it: the decision expressions translated from the Go source are *proved*
equivalent to the expressions inside the models, and the digests of the load-bearing statements
are compared with the accepted ones.  A source change that alters one of them breaks a named lemma.
-/
namespace Jiva.Tie
open Jiva

-- The majority tests of `UpdateVolStatus`, `registerReplica` and `MultiWriterAt` as the source has them, WITH quorum
-- (arbiter) replicas, which the models leave out.  What is accepted here is that a quorum replica raises the
-- thresholds and never stands in for a data replica.
theorem volStatusQuorum (rw rf q : Nat) : Gen.volStatusRW rw rf q = decide (rw ≥ (rf + q) / 2 + 1) := by
  unfold Gen.volStatusRW; simp
theorem canSignalQuorum (nreg nq rf q : Nat) :
    Gen.canSignal nreg nq rf q = (decide (nreg ≥ rf / 2 + 1) && decide (nreg + nq ≥ (q + rf) / 2 + 1)) := by
  unfold Gen.canSignal; simp
/-- a start signal needs `⌊rf/2⌋+1` DATA registrations whatever the number of quorum registrations -/
theorem canSignalNeedsDataMajority (nreg nq rf q : Nat) (h : Gen.canSignal nreg nq rf q = true) : nreg ≥ rf / 2 + 1 := by
  rw [canSignalQuorum] at h; simp at h; exact h.1
theorem mwWriteQuorum (w u re qe : Nat) :
    Gen.mwWriteOk w u re qe = (decide (w - re > w / 2) && decide (w + u - re - qe > (w + u) / 2)) := by
  unfold Gen.mwWriteOk; simp

/-- `UpdateVolStatus`: the volume is writable iff `rw ≥ ⌊rf/2⌋+1` — the expression `Ctl.updateVolStatus` uses. -/
theorem volStatus (rw rf : Nat) : Gen.volStatusRW rw rf 0 = decide (rw ≥ rf / 2 + 1) :=
  volStatusQuorum rw rf 0

/-- `registerReplica`: a start signal needs `⌊rf/2⌋+1` registrations — the test of `Ctl.electAndSignal`. -/
theorem canSignal (nreg rf : Nat) : Gen.canSignal nreg 0 rf 0 = decide (nreg ≥ rf / 2 + 1) := by
  simp only [canSignalQuorum, Nat.add_zero, Nat.zero_add, Bool.and_self]

/-- `MultiWriterAt`: strictly more than half of the writers succeeded — `Ctl.majorityOk`. -/
theorem mwWrite (w re : Nat) : Gen.mwWriteOk w 0 re 0 = Ctl.majorityOk w re := by
  rw [mwWriteQuorum]; exact Bool.and_self _
theorem mwSync (w re : Nat) : Gen.mwSyncOk w re = Ctl.majorityOk w re := by
  unfold Gen.mwSyncOk Ctl.majorityOk; simp
theorem mwUnmap (w re : Nat) : Gen.mwUnmapOk w re = Ctl.majorityOk w re := by
  unfold Gen.mwUnmapOk Ctl.majorityOk; simp

/-- the whole-volume model (`Model/Cluster.lean`) uses the same regenerated expressions: its read-only
    gate is `UpdateVolStatus`'s test, the majority its election waits for is `registerReplica`'s, the
    acknowledgement rule of its write step is `MultiWriterAt`'s -/
theorem clusterGate (s : Cluster.Sys) :
    decide (s.rwCount < s.quorum) = !Gen.volStatusRW s.rwCount s.rf 0 := by
  unfold Cluster.Sys.quorum; simp [volStatus, ← decide_not]
theorem clusterElectionMajority (s : Cluster.Sys) :
    decide (s.regCount ≥ s.quorum) = Gen.canSignal s.regCount 0 s.rf 0 := by
  rw [canSignal]; rfl
theorem clusterAck (attached failed : Nat) : Ctl.majorityOk attached failed = Gen.mwWriteOk attached 0 failed 0 :=
  (mwWrite attached failed).symm

/-- the controller's range check over `int64` (no wrap-around: the expression does not add):
    for non-negative lengths an I/O is refused iff it does not lie inside `[0, size]` -/
theorem rangeWrite (off len size : Int) (hl : 0 ≤ len) :
    Gen.ioRefusedWriteAt off len size = true ↔ ¬ (0 ≤ off ∧ off + len ≤ size) := by
  unfold Gen.ioRefusedWriteAt; simp; omega
theorem rangeRead (off len size : Int) (hl : 0 ≤ len) :
    Gen.ioRefusedReadAt off len size = true ↔ ¬ (0 ≤ off ∧ off + len ≤ size) := by
  unfold Gen.ioRefusedReadAt; simp; omega

/-- on naturals the range check is the test `off + len > size` of `Ctl.stepWrite` / `Ctl.stepRead` -/
theorem rangeNat (off len size : Nat) :
    Gen.ioRefusedWriteAt off len size = decide (off + len > size) := by
  rw [Bool.eq_iff_iff, rangeWrite _ _ _ (Int.natCast_nonneg _)]; simp; omega

/-- `RemoveIndex` moves exactly the entries at or above the removed index — `DD.removeIdx`. -/
theorem removeIndex (loc idx : Nat) : Gen.removeIndexShifts loc idx = decide (idx ≤ loc) := by
  unfold Gen.removeIndexShifts; simp

/-- chain-length limit: a snapshot is refused when `len(activeDiskData)+1 > max`; with
    `len(activeDiskData) = top + 1` no accepted snapshot makes the live chain (`top + 1` members
    afterwards) longer than `max`, so the next open succeeds. -/
theorem chainLimit (top maxLen : Nat) (h : Gen.chainTooLong (top + 1) maxLen = false) :
    Gen.liveChainTooLong (top + 1) maxLen = false := by
  unfold Gen.chainTooLong at h; unfold Gen.liveChainTooLong
  simp at h ⊢; omega

/-- `Start` refuses more addresses than the replication factor — the test of `Ctl.stepStart`
    (for the configured factors the model covers, `rf ≥ 1`) -/
theorem startOverRF (n rf : Nat) (h : 1 ≤ rf) : Gen.startOverRF n rf = decide (n > rf) := by
  unfold Gen.startOverRF; simp; omega

/-- the wire frame: `Wire.Write` and `Wire.Read` use the field order and widths of the RPC model's
    `encode` / `decode` (`Rpc.encode_layout`) -/
theorem wireLayout : Gen.wireWrite = Rpc.layout ∧ Gen.wireRead = Rpc.layout := ⟨rfl, rfl⟩

/-- every action a handler is routed for appears in some state's table, and conversely every
    action a state offers is routed (so an offered action is never a dead link) -/
theorem routed_offered :
    (∀ a ∈ Gen.routedActions, ∃ row ∈ Gen.replicaActions, a ∈ row.2) := by decide +kernel

/-- the load-bearing statements are the accepted ones -/
theorem statements : Gen.factDigests = Expected.factDigests := rfl

end Jiva.Tie
