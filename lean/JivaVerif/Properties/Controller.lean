import JivaVerif.Lemmas.CtlStep
/-!
# Controller properties: C02, C03, C04, C05, C09, C13, C18 and the controller halves of C01, C07,
# C10, C16

Model: `Jiva.Ctl` (controller/control.go, replicator.go, multi_writer_at.go, rebuild.go).  A state is
*reachable* if it is `(Ctl.init rf).run ops` for some request list `ops` — any requests, any
environment answers (they are part of the requests), `rf ≥ 1`.  `cinv_run` gives the invariant
`CInv` in every reachable state; the theorems below are stated for any state satisfying `CInv`.
-/
namespace Jiva.Properties
open Jiva Ctl

theorem ctl_reachable_inv (rf : Nat) (h : 1 ≤ rf) (ops : List CtlOp) : CInv ((Ctl.init rf).run ops) :=
  cinv_run ops _ (cinv_init rf h)

/-! ## C03 — writes only while a quorum of replicas is RW -/

/-- **C03 (status exact, every reachable state).** The volume is read-only exactly when fewer
    than ⌊RF/2⌋+1 replicas are RW — after *every* request, not only at quiescent points. -/
theorem c03_status_exact (c : Ctl) (h : CInv c) :
    c.readOnly = false ↔ rwOf c.replicas ≥ c.rf / 2 + 1 := by
  rw [h.status.1]; simp

/-- **C03 (gate).** While read-only, write / flush / unmap are refused, no replica is called and
    nothing changes. -/
theorem c03_gate (c : Ctl) (hro : c.readOnly = true) (off len : Nat) (f : List String) (t : List (String × Out)) :
    c.stepWrite off len f t = (c, .refused) ∧ c.stepSync "Sync" f = (c, .refused) ∧
    c.stepSync "Unmap" f = (c, .refused) := by
  unfold stepWrite stepSync; simp [hro]

/-- **C03 (never below quorum).** A write that is let through (not refused) happens in a state
    with a quorum of RW replicas. -/
theorem c03_never_below (c : Ctl) (h : CInv c) (off len : Nat) (f : List String) (t : List (String × Out))
    (hacc : (c.stepWrite off len f t).2 ≠ .refused) : rwOf c.replicas ≥ c.rf / 2 + 1 := by
  apply (c03_status_exact c h).mp
  cases hro : c.readOnly with
  | false => rfl
  | true => exact absurd (by rw [(c03_gate c hro off len f t).1]) hacc

/-- the state in which `Controller.WriteAt` fans the request out, if it does: the state of the request
    itself, or — for a request that is first completed from the RW replicas while a WO replica is
    attached — the state after that read, the readers that failed it dropped.  It repeats the tests of
    `Ctl.stepWrite` branch for branch: a change to `stepWrite` is a change here, in `stepWrite_spec` and in
    `Ok.stepWrite`. -/
def writeFanOutState (c : Ctl) (off len : Nat) (tried : List (String × Out)) : Option Ctl :=
  if c.readOnly then none else
  if off + len > c.size then none else
  if c.needsWiden off len then
    if !c.available then none else
    let c1 := c.readCalls tried
    let errs := (tried.filter fun t => t.2 = .fail).map (·.1)
    let served := tried.any fun t => t.2 = .ok
    if errs.isEmpty then (if served then some c1 else none) else
    if served ∧ !(c1.ioFail errs).2 then
      (if (c1.ioFail errs).1.readOnly then none else some (c1.ioFail errs).1)
    else none
  else some c

theorem readCalls_readOnly (t : List (String × Out)) : ∀ c : Ctl, (c.readCalls t).readOnly = c.readOnly :=
  fun c => (frame_readCalls c t).readOnly

/-- `Controller.WriteAt` in one statement: it fans out from `writeFanOutState`, with the gate open there, or it is not
    acknowledged -/
theorem stepWrite_spec (c : Ctl) (off len : Nat) (f : List String) (t : List (String × Out)) :
    let R (o : Option Ctl) (x : Ctl × CtlOut) : Prop :=
      match o with
      | some c' => x = c'.stepFanOut "WriteAt" f ∧ c'.readOnly = false ∧
          (c.needsWiden off len = false ∧ c' = c ∨
           (t.any fun x => x.2 = .ok) = true ∧ (c' = c.readCalls t ∨
             c' = ((c.readCalls t).ioFail ((t.filter fun t => t.2 = .fail).map (·.1))).1))
      | none => x.2 ≠ .ok
    R (writeFanOutState c off len t) (c.stepWrite off len f t) := by
  intro R
  have no : ∀ d o, o ≠ .ok → R none (d, o) := fun _ _ h => h
  -- the two definitions branch on the same tests
  simp only [writeFanOutState, stepWrite]
  exact ite_ind₂ (fun _ => no _ _ (by decide)) fun ro =>                              -- read-only
    ite_ind₂ (fun _ => no _ _ (by decide)) fun _ =>                                   -- out of range
      ite_ind₂ (fun _ =>                                                              -- a read comes first:
          ite_ind₂ (fun _ => no _ _ (by decide)) fun _ =>                             -- nobody to read from
            ite_ind₂ (fun _ =>                                                        -- no reader failed:
                ite_ind₂ (fun hs =>                                                   -- served; not served
                    ⟨rfl, (readCalls_readOnly t c).trans (Bool.eq_false_iff.mpr ro), .inr ⟨hs, .inl rfl⟩⟩)
                  fun _ => no _ _ (by decide)) fun _ =>
              ite_ind₂ (fun hs =>                                                     -- served, an RW replica is left:
                  ite_ind₂ (fun _ => no _ _ (by decide))                              -- the quorum is lost
                    fun ro2 => ⟨rfl, Bool.eq_false_iff.mpr ro2, .inr ⟨hs.1, .inr rfl⟩⟩)
                fun _ => no _ _ (by decide))
        fun hw => ⟨rfl, Bool.eq_false_iff.mpr ro, .inl ⟨Bool.eq_false_iff.mpr hw, rfl⟩⟩

theorem stepWrite_fanOut (c : Ctl) (off len : Nat) (f : List String) (t : List (String × Out)) (c' : Ctl)
    (h : writeFanOutState c off len t = some c') : c.stepWrite off len f t = c'.stepFanOut "WriteAt" f := by
  have := stepWrite_spec c off len f t
  rw [h] at this
  exact this.1

theorem writeFanOutState_inv {c : Ctl} (hc : CInv c) {off len : Nat} {t : List (String × Out)} {c' : Ctl}
    (h : writeFanOutState c off len t = some c') : CInv c' ∧ c'.readOnly = false := by
  have := stepWrite_spec c off len [] t
  rw [h] at this
  refine ⟨?_, this.2.1⟩
  rcases this.2.2 with ⟨_, rfl⟩ | ⟨_, rfl | rfl⟩
  · exact hc
  · exact hc.frame (frame_readCalls c t)
  · exact cinv_ioFail _ (hc.frame (frame_readCalls c t)) _

/-- **C03 (the fan-out itself happens with a quorum).** Whenever `Controller.WriteAt` sends the request to
    the replicas, the volume has a quorum of RW replicas AT THAT MOMENT — also when the read that
    completes a sub-block request (a WO replica is attached) has just cost it replicas: the gate is
    looked at again after that read (fix in /repo; before it, a write could be fanned out to, and
    acknowledged by, one RW replica and the rebuilding one). -/
theorem c03_fanout_with_quorum (c : Ctl) (hc : CInv c) (off len : Nat) (t : List (String × Out)) (c' : Ctl)
    (h : writeFanOutState c off len t = some c') : rwOf c'.replicas ≥ c'.rf / 2 + 1 := by
  have key := writeFanOutState_inv hc h
  exact (c03_status_exact c' key.1).mp key.2

/-- **C03 (recovers).** With a quorum the gate is open. -/
theorem c03_recovers (c : Ctl) (h : CInv c) (hq : rwOf c.replicas ≥ c.rf / 2 + 1) : c.readOnly = false :=
  (c03_status_exact c h).mpr hq

/-! ## C18 — membership bookkeeping is consistent -/

/-- **C18.** In every reachable state: no address twice; the I/O table has exactly the replica
    list's addresses and modes; the write fan-out is exactly the non-ERR backends and the read set
    exactly the RW backends; at most one replica is rebuilding; at most RF replicas; the reported RW
    count is the number of RW entries; no live backend was ever closed. -/
theorem c18_consistent (c : Ctl) (h : CInv c) :
    (c.replicas.map (·.1)).Nodup ∧
    c.backends.map (fun b => (b.addr, b.mode)) = c.replicas ∧
    c.writers = (c.backends.filter fun b => b.mode ≠ .err).map (fun b => (b.addr, b.id)) ∧
    c.readers = (c.backends.filter fun b => b.mode = .rw).map (fun b => (b.addr, b.id)) ∧
    (c.replicas.filter fun r => r.2 = .wo).length ≤ 1 ∧
    c.replicas.length ≤ c.rf ∧
    c.rwCount = rwOf c.replicas ∧
    (∀ b ∈ c.backends, b.id ∉ c.closed) :=
  ⟨h.core.nodup, h.core.agree, h.core.fanout.1, h.core.fanout.2.1, h.core.oneWO, h.core.lenRf,
   h.status.2, h.core.idsLive⟩

/-- **C18 (removed is silent).** A closed backend is in neither fan-out list, so no later request
    calls it. -/
theorem c18_removed_silent (c : Ctl) (h : CInv c) (a : String) (id : Nat) (hcl : id ∈ c.closed) :
    (a, id) ∉ c.writers ∧ (a, id) ∉ c.readers := by
  -- both lists are drawn from the I/O table, which holds no closed backend
  have live : ∀ p : Backend → Bool, (a, id) ∉ (c.backends.filter p).map fun b => (b.addr, b.id) := by
    intro p hm
    obtain ⟨b, hb, e⟩ := List.mem_map.mp hm
    exact h.core.idsLive b (List.mem_filter.mp hb).1 ((Prod.mk.inj e).2 ▸ hcl)
  rw [h.core.fanout.1, h.core.fanout.2.1]
  exact ⟨live _, live _⟩

/-- **C18 (Start respects the replication factor).** A start request naming more replicas than the
    replication factor is refused and changes nothing (fix 8cc7cbc). -/
theorem c18_start_rf (c : Ctl) (es : List StartEnv) (ck : CkEnv) (h : es.length > c.rf) :
    (c.stepStart es ck).1 = c := by
  unfold stepStart
  split
  · rfl
  · simp only [apply_ite Prod.fst, if_pos h, ite_self]

/-! ## C02 / C05 — majority acknowledgement, detachment of the failed -/

/-- **the acknowledgement rule of `WriteAt` / `Sync` / `Unmap`**: replicas are available, and nobody
    failed or a strict majority of the attached replicas did not fail and an RW replica survives -/
theorem stepFanOut_ok_iff (c : Ctl) (m : String) (fails : List String) :
    (c.stepFanOut m fails).2 = .ok ↔ c.available = true ∧ (c.failedWriters fails = [] ∨
      c.writers.length - (c.failedWriters fails).length > c.writers.length / 2 ∧
      ((c.writers.foldl (fun c w => c.call w.2 m) c).ioFail (c.failedWriters fails)).2 = false) := by
  unfold stepFanOut
  cases c.available <;> simp [majorityOk, List.isEmpty_iff]
  by_cases he : c.failedWriters fails = [] <;> simp [he]

theorem stepFanOut_ok_or_failed (c : Ctl) (m : String) (fails : List String) :
    (c.stepFanOut m fails).2 = .ok ∨ (c.stepFanOut m fails).2 = .failed := by
  let P (r : Ctl × CtlOut) : Prop := r.2 = .ok ∨ r.2 = .failed
  show P _
  unfold stepFanOut
  exact iteInduction (fun _ => .inr rfl) fun _ => iteInduction (fun _ => .inl rfl) fun _ =>
    iteInduction (motive := fun o => P (_, o)) (fun _ => .inl rfl) fun _ => .inr rfl

/-- **C02 (acknowledged ⇒ majority).** If a write / flush / unmap is reported successful, strictly
    more than half of the replicas attached at that moment applied it (or none failed). -/
theorem c02_ack_majority (c : Ctl) (m : String) (fails : List String)
    (hok : (c.stepFanOut m fails).2 = .ok) :
    c.writers.length - (c.failedWriters fails).length > c.writers.length / 2 ∨ c.failedWriters fails = [] :=
  ((stepFanOut_ok_iff c m fails).mp hok).2.symm.imp_left (·.1)

/-- **C02 (no majority ⇒ failure reported).** -/
theorem c02_fail_reported (c : Ctl) (m : String) (fails : List String) (hav : c.available = true)
    (hne : c.failedWriters fails ≠ [])
    (hno : ¬ (c.writers.length - (c.failedWriters fails).length > c.writers.length / 2)) :
    (c.stepFanOut m fails).2 = .failed :=
  (stepFanOut_ok_or_failed c m fails).resolve_left fun hok =>
    ((stepFanOut_ok_iff c m fails).mp hok).2.elim hne fun h => hno h.1

theorem removeAll_gone (errs : List String) : ∀ (c : Ctl), CInv c → ∀ a ∈ errs,
    (c.removeAll errs).hasReplica a = false ∧ (c.removeAll errs).backendOf a = none := by
  intro c h a ha
  have hh : (c.removeAll errs).hasReplica a = false := by
    unfold hasReplica
    rw [removeAll_replicas]
    refine List.any_eq_false.mpr fun r hr e => ?_
    have hn := (List.mem_filter.mp hr).2
    rw [of_decide_eq_true e, List.contains_iff_mem.mpr ha] at hn
    cases hn
  exact ⟨hh, backendOf_none (cinv_removeAll c h errs).core hh⟩

/-- **C02 / C05 (laggards detached).** After a write / flush / unmap returns — successfully or not —
    every replica that failed it is out of the replica list and out of the I/O table (its backend
    closed), so by `c18_consistent` it is in no fan-out list and receives no further call. -/
theorem c02_failed_detached (c : Ctl) (h : CInv c) (m : String) (fails : List String)
    (hav : c.available = true) (a : String) (ha : a ∈ c.failedWriters fails) :
    ((c.stepFanOut m fails).1).hasReplica a = false ∧ ((c.stepFanOut m fails).1).backendOf a = none := by
  have he : ¬ (c.failedWriters fails).isEmpty = true := fun hh => by
    rw [List.isEmpty_iff.mp hh] at ha; cases ha
  simp only [stepFanOut, hav, Bool.not_true, Bool.false_eq_true, if_false, if_neg he, ioFail]
  exact removeAll_gone _ _ (cinv_handleError _ (h.frame (frame_calls c c.writers (·.2) m)) _) a ha

/-- **C05 (a failing minority is masked).** If the failed replicas leave a strict majority of the
    attached ones and an RW replica survives (`handleErrorNoLock` finds one), the request succeeds
    towards the initiator. -/
theorem c05_minority_masked (c : Ctl) (m : String) (fails : List String) (hav : c.available = true)
    (hmaj : c.writers.length - (c.failedWriters fails).length > c.writers.length / 2)
    (hrw : ((c.writers.foldl (fun c w => c.call w.2 m) c).ioFail (c.failedWriters fails)).2 = false) :
    (c.stepFanOut m fails).2 = .ok :=
  (stepFanOut_ok_iff c m fails).mpr ⟨hav, .inr ⟨hmaj, hrw⟩⟩

/-- the "an RW replica survives" test of `handleErrorNoLock` is exactly that -/
theorem c05_survivor_test (c : Ctl) (errs : List String) (hne : errs ≠ []) :
    (c.handleError errs).2 = false ↔ ((c.handleError errs).1.replicas.any fun r => r.2 = .rw) = true := by
  have : ¬ (errs.isEmpty = true) := fun hh => hne (List.isEmpty_iff.mp hh)
  simp [handleError, this]

/-! ## C04 — reads only from RW replicas, with fail-over -/

/-- **C04 (readers are exactly the RW replicas).** -/
theorem c04_readers_rw (c : Ctl) (h : CInv c) (a : String) (id : Nat) :
    (a, id) ∈ c.readers ↔ ∃ b ∈ c.backends, b.addr = a ∧ b.id = id ∧ b.mode = .rw := by
  simp only [h.core.fanout.2.1, List.mem_map, List.mem_filter, decide_eq_true_eq, Prod.mk.injEq]
  exact ⟨fun ⟨b, ⟨hb, hm⟩, e1, e2⟩ => ⟨b, hb, e1, e2, hm⟩, fun ⟨b, hb, e1, e2, hm⟩ => ⟨b, ⟨hb, hm⟩, e1, e2⟩⟩

/-- **C04 (no RW replica ⇒ the read fails and nobody is asked).** -/
theorem c04_no_rw_fails (c : Ctl) (hav : c.available = false) (off len : Nat) (tried : List (String × Out))
    (hr : off + len ≤ c.size) : (c.stepRead off len tried).2 = .failed ∧ (c.stepRead off len tried).1 = c := by
  have : c.stepRead off len tried = (c, .failed) := by
    simp only [stepRead, if_neg (Nat.not_lt.mpr hr), hav, Bool.not_false, if_true, ite_self]
  rw [this]
  exact ⟨rfl, rfl⟩

/-- **C04 (only readers are asked).** The calls a read makes go to members of the read set. -/
theorem c04_read_calls (c : Ctl) (tried : List (String × Out)) :
    ∀ p ∈ (c.readCalls tried).calls, p ∈ c.calls ∨ ∃ r ∈ c.readers, r.2 = p.1 := by
  induction tried generalizing c with
  | nil => exact fun p hp => .inl hp
  | cons t ts ih =>
    intro p hp
    cases hf : c.readers.find? (fun r => r.1 = t.1) with
    | none => exact ih c p (by simpa only [readCalls, List.foldl_cons, hf] using hp)
    | some r =>
      -- the reader asked is a member of the read set, which logging a call does not change
      rcases ih (c.call r.2 "ReadAt") p (by simpa only [readCalls, List.foldl_cons, hf] using hp) with h1 | h1
      · rcases List.mem_append.mp h1 with h2 | h2
        · exact .inl h2
        · exact .inr ⟨r, List.mem_of_find?_eq_some hf, by rw [List.mem_singleton.mp h2]⟩
      · exact .inr h1

/-! ## C09 — election -/

theorem maxRevCount_ge_cur (regs : List Reg) (cur : Nat) : cur ≤ maxRevCount regs cur := by
  induction regs generalizing cur with
  | nil => exact Nat.le_refl _
  | cons r rs ih =>
    refine Nat.le_trans ?_ (ih (if !r.rebuilding ∧ cur < r.rev then r.rev else cur))
    exact iteInduction (motive := (cur ≤ ·)) (fun h => Nat.le_of_lt h.2) fun _ => Nat.le_refl _

theorem maxRevCount_ge (regs : List Reg) : ∀ (cur : Nat) (r : Reg), r ∈ regs → r.rebuilding = false →
    r.rev ≤ maxRevCount regs cur := by
  induction regs with
  | nil => intro cur r hr; cases hr
  | cons x xs ih =>
    intro cur r hr hnb
    show r.rev ≤ maxRevCount xs (if !x.rebuilding ∧ cur < x.rev then x.rev else cur)
    rcases List.mem_cons.mp hr with rfl | e
    · refine Nat.le_trans ?_ (maxRevCount_ge_cur xs _)
      exact iteInduction (motive := (r.rev ≤ ·)) (fun _ => Nat.le_refl _) fun hc =>
        Nat.le_of_not_lt fun hh => hc ⟨by simp [hnb], hh⟩
    · exact ih _ r e hnb

/-- **C09 (the elected replica has the highest revision count).** Whatever order Go iterates the
    registration map in, a winner the election loop can produce holds the maximum count `M` over the
    current leader candidate and every registered replica that is not in the middle of a rebuild:
    no such replica has more than `M`, and the winner is either the candidate `cur` (whose count
    `curRev` then equals `M`) or a registered, non-rebuilding replica whose count is `M`. -/
theorem c09_max (regs : List Reg) (cur w : String) (curRev : Nat) (hl : legalElect regs cur curRev w = true) :
    (∀ r ∈ regs, r.rebuilding = false → r.rev ≤ maxRevCount regs curRev) ∧ curRev ≤ maxRevCount regs curRev ∧
    ((w = cur ∧ curRev = maxRevCount regs curRev) ∨
     (∃ x ∈ regs, x.addr = w ∧ x.rebuilding = false ∧ x.rev = maxRevCount regs curRev)) := by
  refine ⟨fun r hr hnb => maxRevCount_ge regs curRev r hr hnb, maxRevCount_ge_cur regs curRev, ?_⟩
  unfold legalElect at hl
  by_cases hm : maxRevCount regs curRev = curRev
  · rw [if_pos hm] at hl
    left; exact ⟨by simpa using hl, hm.symm⟩
  · rw [if_neg hm] at hl
    right
    obtain ⟨x, hx, hp⟩ := List.any_eq_true.mp hl
    exact ⟨x, hx, by simpa using hp⟩

/-- **C09 (majority first).** The election tail sends a start signal only when a majority of the
    configured replicas is registered. -/
theorem c09_majority (c : Ctl) (r : Reg) (so : Bool) (el : String)
    (hs : (c.electAndSignal r so el).1.signals ≠ c.signals) : c.registered.length ≥ c.rf / 2 + 1 := by
  let P (x : Ctl × CtlOut) : Prop := x.1.signals ≠ c.signals → c.registered.length ≥ c.rf / 2 + 1
  have quiet : ∀ (d : Ctl) o, d.signals = c.signals → P (d, o) := fun _ _ e h => absurd e h
  suffices h : P (c.electAndSignal r so el) from h hs
  unfold electAndSignal
  exact iteInduction (fun _ => quiet _ _ rfl) fun _ => iteInduction (fun _ => quiet _ _ rfl) fun _ =>
    iteInduction (fun hm _ => hm) fun _ => quiet _ _ rfl

/-- **C09 (a rebuilding replica never triggers an election).** -/
theorem c09_rebuilding_not_elected (c : Ctl) (r : Reg) (so : Bool) (el : String) (hr : r.rebuilding = true) :
    c.electAndSignal r so el = (c, .ok) := by
  unfold electAndSignal; simp [hr]

/-- **C09 (only the leader can start the volume).** -/
theorem c09_only_leader (c : Ctl) (e0 : StartEnv) (es : List StartEnv) (ck : CkEnv)
    (hne : e0.addr ≠ full c.maxRev) (h0 : c.replicas.length = 0) :
    c.stepStart (e0 :: es) ck = (c, .refused) := by
  unfold stepStart
  have : ¬ (c.replicas.length > 0) := by omega
  simp [this, hne]

/-- no entry for `a` is RW: how `c09_start_fences_stale` says that a replica is fenced -/
def NotRW (l : List (String × CMode)) (a : String) : Prop := ∀ r ∈ l, r.1 = a → r.2 ≠ .rw

theorem notRW_setErr (c : Ctl) (a b : String) (h : a = b ∨ NotRW c.replicas a) :
    NotRW (c.setMode b .err).replicas a := by
  intro r hr ha
  rcases mem_setMode_replicas hr with ⟨hr0, he⟩ | ⟨_, he⟩
  · rcases h with rfl | h
    · rw [he ha]; decide
    · exact h r hr0 ha
  · rw [he]; decide

theorem notRW_foldl (l : List String) : ∀ (c : Ctl) (a : String), (a ∈ l ∨ NotRW c.replicas a) →
    NotRW (l.foldl (fun c a => c.setMode a .err) c).replicas a := by
  induction l with
  | nil => intro c a h; exact h.resolve_left (by simp)
  | cons b l ih =>
    intro c a h
    refine ih _ a ?_
    rcases h with h | h
    · exact (List.mem_cons.mp h).elim (fun e => .inr (notRW_setErr c a b (.inl e))) .inl
    · exact .inr (notRW_setErr c a b (.inr h))

/-- **C09 / C04 (replicas found behind at start-up are fenced).** After a successful `Start` with any
    number of addresses, whatever each replica answered, every replica whose revision counter is not
    the highest one reported is not RW — no read is served from it (`CInv`: readers = RW backends) —
    and the highest counter is an upper bound of all of them. -/
theorem c09_start_fences_stale (c : Ctl) (es : List StartEnv) (ck : CkEnv) (h0 : ¬ c.replicas.length > 0)
    (hok : (c.stepStart es ck).2 = .ok) :
    (∀ e ∈ es, e.rev.getD 0 ≤ expectedRev es) ∧
    ∀ e ∈ es, e.rev.getD 0 ≠ expectedRev es → NotRW (c.stepStart es ck).1.replicas e.addr := by
  refine ⟨(List.foldl_max_ge _ es 0).2, ?_⟩
  intro e he hstale
  cases es with
  | nil => cases he
  | cons e0 rest =>
    -- `updateVolStatus_replicas` holds by `rfl` and is rewritten with all the same: left to unification,
    -- `updateVolStatus` is unfolded together with the loop under it (seven times the cost)
    rw [(stepStart_ok c e0 rest ck h0 hok).2, (frame_startFront _).replicas, updateCheckpoint_replicas,
      updateVolStatus_replicas]
    refine notRW_foldl _ _ _ (.inl ?_)
    exact List.mem_map.mpr ⟨e, List.mem_filter.mpr ⟨he, decide_eq_true hstale⟩, rfl⟩

/-! ## C13 — snapshots on all replicas, checkpoint agreed -/

/-- **C13 (refused unless all RF replicas are RW).** -/
theorem c13_snapshot_refused (c : Ctl) (h : CInv c) (ex : Option Bool) (f : List String)
    (hn : rwOf c.replicas ≠ c.rf) : c.stepSnapshot ex f = (c, .refused) := by
  unfold stepSnapshot
  have : c.rwCount ≠ c.rf := by rw [h.status.2]; exact hn
  simp [this]

/-- **C13 (failed replicas are marked).** `setReplicaModeNoLock` leaves every entry for the address in
    the mode asked for or in ERR; `Snapshot` asks for ERR (`handleErrorNoLock`) for every replica whose
    call failed, so none of them is left RW or WO with a diverging chain. -/
theorem c13_snapshot_failed_marked (c : Ctl) (a : String) (m : CMode) (hm : m ≠ .wo) :
    ∀ r ∈ (c.setMode a m).replicas, r.1 = a → r.2 = m ∨ r.2 = .err := by
  intro r hr ha
  rcases mem_setMode_replicas hr with ⟨_, he⟩ | ⟨_, he⟩
  · exact .inr (he ha)
  · exact .inl he

/-- **C13 (checkpoint sound).** A checkpoint is recorded only when all RF replicas are RW, agree on
    their latest snapshot, and every one of them persisted that name. -/
theorem c13_checkpoint_sound (c : Ctl) (e : CkEnv) (hne : (c.updateCheckpoint e).checkpoint ≠ "") :
    rwOf c.replicas = c.rf ∧ latestAgreed c e = some (c.updateCheckpoint e).checkpoint ∧
    ((c.backends.filter fun b => b.mode = .rw).all fun b => lookupD e.setOk b.addr true) = true :=
  updateCheckpoint_sound c e hne

/-- **C13 (a recorded checkpoint implies a full replica list).** -/
theorem c13_checkpoint_full (c : Ctl) (h : CInv c) (hne : c.checkpoint ≠ "") : c.replicas.length = c.rf :=
  h.ckpt hne

/-- **C13 (withdrawn when a replica leaves).** A removal therefore always clears the checkpoint. -/
theorem c13_withdrawn (c : Ctl) (h : CInv c) (a : String) (hh : c.hasReplica a = true) :
    (c.removeReplica a CkEnv.none).checkpoint = "" := by
  refine Classical.not_not.mp fun ne => ?_
  have hl := (cinv_removeReplica c h a CkEnv.none).ckpt ne
  rw [removeReplica_replicas, removeReplica_rf] at hl
  -- one entry was removed, so the list is strictly shorter than before, which was at most rf
  obtain ⟨r, hr, hra⟩ := List.any_eq_true.mp hh
  have hlt : (c.replicas.filter fun r => r.1 ≠ a).length < c.replicas.length :=
    List.length_filter_lt_length_iff_exists.mpr ⟨r, hr, by simpa using hra⟩
  have := h.core.lenRf
  omega

/-! ## C01 / C16 / C07 / C10 — controller halves -/

/-- **C01 (range check).** I/O that is not inside `[0, size)` is refused and touches nothing. -/
theorem c01_range (c : Ctl) (off len : Nat) (f : List String) (t : List (String × Out)) (hout : off + len > c.size) :
    (c.readOnly = false → c.stepWrite off len f t = (c, .refused)) ∧ c.stepRead off len t = (c, .refused) := by
  unfold stepWrite stepRead
  constructor
  · intro hro; simp [hro, hout]
  · simp [hout]

/-- **C16 (controller).** A size that is not larger is refused and nothing changes; otherwise the
    size is updated only after the replicas were resized. -/
theorem c16_ctl_shrink_refused (c : Ctl) (sz : Nat) (f : List String) (h : sz ≤ c.size) :
    c.stepResize sz f = (c, .refused) := by
  unfold stepResize; simp [h]

/-- **C16 (controller, grow reaches every replica in service).** An accepted grow is sent to every
    replica that is not marked failed — the rebuilding (WO) one included, which receives every write
    and will be promoted with the size it has. -/
theorem c16_ctl_grow_reaches_all (c : Ctl) (sz : Nat) (f : List String) (h : c.size < sz) :
    ∀ b ∈ c.backends, b.mode ≠ .err → (b.id, "Resize") ∈ (c.stepResize sz f).1.calls := by
  intro b hb hm
  let P (x : Ctl) : Prop := (b.id, "Resize") ∈ x.calls
  -- the fan-out logs the call, and marking the replicas that failed it only adds to the log
  have sent : P ((c.backends.filter fun b => b.mode ≠ .err).foldl (fun c b => c.call b.id "Resize") c) := by
    rw [foldl_call]
    exact List.mem_append_right _ (List.mem_map.mpr ⟨b, List.mem_filter.mpr ⟨hb, decide_eq_true hm⟩, rfl⟩)
  have kept : ∀ errs, P (Ctl.handleError _ errs).1 := fun errs => (pres_handleError _ errs).calls _ sent
  simp only [stepResize, if_neg (Nat.not_le.mpr h), apply_ite Prod.fst]
  exact iteInduction (motive := P) (fun _ => sent) fun _ => iteInduction (fun _ => kept _) fun _ => kept _

/-- **C07 (promotion gate).** `VerifyRebuildReplica` reports success for a WO replica only if both
    chains were fetched, they agree from the latest snapshot down to the WO replica's checkpoint,
    and the source's revision counter was fetched; the counter sent to the target is that value
    (C10, promotion half). -/
theorem c07_gate (c : Ctl) (a : String) (rwc woc : Option (List String)) (ckp : Option String)
    (rev : Option Nat) (o1 o2 : Bool) (ck : CkEnv)
    (hwo : c.replicas.find? (fun r => r.1 = a) = some (a, .wo))
    (hok : (c.stepVerify a rwc woc ckp rev o1 o2 ck).2 = .ok) :
    ∃ r w k n, rwc = some r ∧ woc = some w ∧ ckp = some k ∧ rev = some n ∧ chainsAgree r w k = true ∧
      o1 = true ∧ o2 = true := by
  rcases stepVerify_cases c a rwc woc ckp rev o1 o2 ck with ⟨d, o, _, e, h⟩ | ⟨_, _, _, h⟩
  · -- only the log changed: success is reported for a replica that is RW already, and this one is WO
    rw [e] at hok
    obtain ⟨cur, hc, hrw⟩ := h hok
    rw [hwo] at hc
    cases hc
    cases hrw
  · exact h

/-- **C07 (sub-block writes during a rebuild are completed from RW replicas).** While a WO replica
    is attached, a write that does not cover whole blocks is acknowledged only if the surrounding data
    was actually served by a reader — i.e. (C04) by an RW replica; when that read fails the request
    fails and no replica receives the write. -/
theorem c07_widened_write_was_read (c : Ctl) (off len : Nat) (f : List String) (t : List (String × Out))
    (hw : c.needsWiden off len = true) (hok : (c.stepWrite off len f t).2 = .ok) :
    (t.any fun x => x.2 = .ok) = true := by
  have s := stepWrite_spec c off len f t
  cases hs : writeFanOutState c off len t with
  | none => rw [hs] at s; exact absurd hok s
  | some c' =>
    rw [hs] at s
    rcases s.2.2 with ⟨hn, _⟩ | ⟨hserved, _⟩
    · rw [hw] at hn; cases hn
    · exact hserved

/-- the reads made for the widening go to members of the read set only -/
theorem c07_widen_asks_readers (c : Ctl) (t : List (String × Out)) :
    ∀ p ∈ (c.readCalls t).calls, p ∈ c.calls ∨ ∃ r ∈ c.readers, r.2 = p.1 := c04_read_calls c t

/-- **C07 (at most one rebuilding).** Part of `c18_consistent`; stated again for reachable states. -/
theorem c07_single_wo (rf : Nat) (h : 1 ≤ rf) (ops : List CtlOp) :
    (((Ctl.init rf).run ops).replicas.filter fun r => r.2 = .wo).length ≤ 1 :=
  (ctl_reachable_inv rf h ops).core.oneWO

/-- **C18 / C07 under overlapping AddReplica calls.** `AddReplica` releases the controller lock
    around `factory.Create`; its two critical sections are the requests `addPre` / `addPost`, which
    may be interleaved with each other and with every other request in any way (`ops` is arbitrary).
    In every state reached the replica list never exceeds the replication factor, no address appears
    twice and at most one replica is rebuilding.  (The bound needed the repair 8ee11b8: the
    replication factor is verified again once the lock is re-taken.) -/
theorem c18_overlapping_adds (rf : Nat) (h : 1 ≤ rf) (ops : List CtlOp) :
    ((Ctl.init rf).run ops).replicas.length ≤ rf ∧
    (((Ctl.init rf).run ops).replicas.map (·.1)).Nodup ∧
    (((Ctl.init rf).run ops).replicas.filter fun r => r.2 = .wo).length ≤ 1 := by
  have inv := ctl_reachable_inv rf h ops
  exact ⟨Nat.le_trans inv.core.lenRf (Nat.le_of_eq (run_rf ops _)), inv.core.nodup, inv.core.oneWO⟩

/-- two additions overlapping inside `Create` with RF 3 and two RW replicas: the first attaches and is
    promoted, the second is refused when it comes back (before 8ee11b8 it was attached as a fourth) -/
example :
    let ops : List CtlOp :=
      [.register ⟨"a", "ua", 5, false⟩ true true "a", .register ⟨"b", "ub", 3, false⟩ true true "a",
       .start [⟨"tcp://a:9502", true, 1048576, true, "NA", true, some 5⟩] CkEnv.none,
       .add "tcp://b:9502" none true [] true true CkEnv.none,
       .verify "tcp://b:9502" (some ["h1", "s1"]) (some ["h0", "s1"]) (some "") (some 5) true true CkEnv.none,
       .addPre "tcp://c:9502" none, .addPre "tcp://d:9502" none,
       .addPost "tcp://c:9502" none true [] true true CkEnv.none,
       .verify "tcp://c:9502" (some ["h2", "s2", "s1"]) (some ["h0", "s2", "s1"]) (some "") (some 5) true true CkEnv.none]
    (((Ctl.init 3).run ops).step (.addPost "tcp://d:9502" none true [] true true CkEnv.none)).2 = .refused ∧
    ((Ctl.init 3).run ops).replicas.length = 3 := by decide +kernel

/-! Non-vacuity: a reachable state with two RW replicas and one rebuilding, RF 3, reached through
    register / start / add / verify / add, then a write that fails on one RW replica. -/
def demo : List CtlOp :=
  [.register ⟨"a", "ua", 5, false⟩ true true "a", .register ⟨"b", "ub", 3, false⟩ true true "a",
   .start [⟨"tcp://a:9502", true, 1048576, true, "NA", true, some 5⟩] CkEnv.none,
   .add "tcp://b:9502" none true [] true true CkEnv.none,
   .verify "tcp://b:9502" (some ["h1", "s1"]) (some ["h0", "s1"]) (some "") (some 5) true true CkEnv.none,
   .add "tcp://c:9502" none true [] true true CkEnv.none]

example : ((Ctl.init 3).run demo).replicas =
    [("tcp://a:9502", .rw), ("tcp://b:9502", .rw), ("tcp://c:9502", .wo)] := by decide +kernel
example : ((Ctl.init 3).run demo).readOnly = false := by decide +kernel
example : (((Ctl.init 3).run demo).stepFanOut "WriteAt" ["tcp://b:9502"]).2 = .ok ∧
    (((Ctl.init 3).run demo).stepFanOut "WriteAt" ["tcp://b:9502"]).1.replicas =
      [("tcp://a:9502", .rw), ("tcp://c:9502", .wo)] := by decide +kernel

/-- a start naming three replicas of which the elected one is behind (the situation of seed C04b): the
    two replicas below the highest counter are fenced, the volume is read-only with one RW of RF 3 -/
example :
    let ops : List CtlOp :=
      [.register ⟨"a", "ua", 7, false⟩ true true "a", .register ⟨"c", "uc", 7, false⟩ true true "a"]
    let st := ((Ctl.init 3).run ops).step (.start [⟨"tcp://a:9502", true, 1048576, true, "NA", true, some 7⟩,
        ⟨"tcp://b:9502", true, 1048576, true, "NA", true, some 9⟩, ⟨"tcp://c:9502", true, 1048576, true, "NA", true, some 7⟩] CkEnv.none)
    st.2 = .ok ∧ st.1.replicas = [("tcp://a:9502", .err), ("tcp://b:9502", .rw), ("tcp://c:9502", .err)] ∧
    st.1.readers = [("tcp://b:9502", 1)] ∧ st.1.readOnly = true := by decide +kernel

/-- four addresses with RF 3 are refused -/
example :
    let ops : List CtlOp :=
      [.register ⟨"a", "ua", 7, false⟩ true true "a", .register ⟨"c", "uc", 7, false⟩ true true "a"]
    let e := fun (a : String) => (⟨a, true, 1048576, true, "NA", true, some 7⟩ : StartEnv)
    (((Ctl.init 3).run ops).step (.start [e "tcp://a:9502", e "tcp://b:9502", e "tcp://c:9502", e "tcp://d:9502"] CkEnv.none)).2 = .refused := by decide +kernel

end Jiva.Properties
