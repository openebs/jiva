import JivaVerif.Lemmas.Cluster
/-!
# C10 at the level of the volume — "all RW replicas of a volume report the same count"

Over the whole-volume model (`Model/Cluster.lean`), for ANY history — failing writes, lost replies,
rebuilds, removals, stops in any state, restarts with any registration order — and with no hypothesis on
the health of the volume: the invariant `Inv0`, and on it the volume-level sentences of C10, C04 and C05.
-/
namespace Jiva.Cluster
open Jiva Sys

/-- The invariant of every history, with no hypothesis on how the volume stops. -/
structure Inv0 (s : Sys) : Prop where
  cnt : ∀ i, (s.node i).rebuilding = false → (s.node i).rev = (s.node i).log.length   -- the counter counts the writes held
  rw  : ∀ i, (s.node i).att = .rw → (s.node i).log = s.stream ∧ (s.node i).rev = s.stream.length   -- an RW replica holds the volume
  dn  : s.up = false → ∀ i, (s.node i).att = .none   -- while the volume is down nobody is attached
  ep  : ∀ w ∈ s.ackedEpoch, w ∈ s.stream   -- what was acknowledged since the last start is in the volume

theorem Inv0.congr {s s' : Sys} (h : Inv0 s) (hn : s'.node = s.node) (hu : s'.up = s.up) (hs : s'.stream = s.stream)
    (he : s'.ackedEpoch = s.ackedEpoch) : Inv0 s' :=
  ⟨hn ▸ h.cnt, hn ▸ hs ▸ h.rw, hn ▸ hu ▸ h.dn, he ▸ hs ▸ h.ep⟩

theorem inv0_init (rf n : Nat) : Inv0 (init rf n) :=
  ⟨fun _ _ => rfl, fun _ h => (by cases h), fun _ _ => rfl, fun _ h => (by cases h)⟩

theorem inv0_setNode (s : Sys) (h : Inv0 s) (i : Nat) (nd : Node)
    (hc : nd.rebuilding = false → nd.rev = nd.log.length)
    (hrw : nd.att = .rw → nd.log = s.stream ∧ nd.rev = s.stream.length)
    (hdn : s.up = true ∨ nd.att = .none) : Inv0 (s.setNode i nd) := by
  refine ⟨fun j => ?_, fun j => ?_, fun hu j => ?_, h.ep⟩ <;> rw [node_setNode] <;> split
  · exact hc
  · exact h.cnt j
  · exact hrw
  · exact h.rw j
  · exact hdn.resolve_left (ne_true_of_eq_false hu)
  · exact h.dn hu j

theorem Inv0.up_of_rw {s : Sys} (h : Inv0 s) {i : Nat} (hi : (s.node i).att = .rw) : s.up = true := by
  cases hu : s.up with
  | true => rfl
  | false => rw [h.dn hu i] at hi; cases hi

theorem inv0_start (s : Sys) (h : Inv0 s) (hd : s.up = false) (e : Nat) (hreb : (s.node e).rebuilding = false) :
    Inv0 (s.start e) := by
  refine ⟨fun j => ?_, fun j => ?_, fun hu => (by cases hu), fun _ hw => (by cases hw)⟩ <;> rw [node_start] <;> split
  · exact h.cnt e
  · exact h.cnt j
  · exact fun _ => ⟨rfl, h.cnt e hreb⟩
  · intro ha; rw [h.dn hd j] at ha; cases ha

/-- a registration changes nothing the invariant reads -/
theorem inv0_register (s : Sys) (h : Inv0 s) (i : Nat) (hd : s.up = false) :
    Inv0 (s.setNode i { s.node i with registered := true }) :=
  inv0_setNode s h i _ (h.cnt i) (h.rw i) (.inr (h.dn hd i))

theorem inv0_step (s : Sys) (h : Inv0 s) (op : Op) : Inv0 (s.step op).1 := by
  refine step_ind (P := fun _ x => Inv0 x.1) s op (fun _ _ => h) (reg := fun i e hd _ => ?_)
    (write := fun f a ok hup _ => by
      refine ⟨fun i hr => ?_, fun i ha => ?_, fun hu => absurd hup (ne_true_of_eq_false hu), fun w hw => ?_⟩
      · rw [writeNode_rebuilding] at hr
        rw [writeNode_rev, writeNode_log]; split
        · rw [h.cnt i hr, List.length_append]; rfl
        · exact h.cnt i hr
      · obtain ⟨hrw, l1, l2⟩ := writeNode_rw s f a i ha
        rw [l1, l2, (h.rw i hrw).1, (h.rw i hrw).2, List.length_append]; exact ⟨rfl, rfl⟩
      · exact mem_append_of_mem_ite_append h.ep hw)
    (add := fun i hup _ _ _ _ _ => inv0_setNode s h i _ (h.cnt i) (fun ha => by cases ha) (.inl hup))
    (setrb := fun i hup _ hwo =>
      inv0_setNode s h i _ (fun hr => by cases hr) (fun ha => by rw [hwo] at ha; cases ha) (.inl hup))
    (promote := fun i src hup _ _ _ hsrc =>
      have hr := h.rw src hsrc
      inv0_setNode s h i _ (fun _ => by rw [hr.1, hr.2]) (fun _ => hr) (.inl hup))
    (rbdone := fun i _ hi _ =>
      have hr := h.rw i hi
      inv0_setNode s h i _ (fun _ => by rw [hr.1, hr.2]) (fun _ => hr) (.inl (h.up_of_rw hi)))
    (remove := fun i _ _ _ => inv0_setNode s h i _ (h.cnt i) (fun ha => by cases ha) (.inr rfl))
    (snap := fun _ _ => ⟨h.cnt, h.rw, h.dn, h.ep⟩)   -- no field reads `snaps`, `nextSnap` or `taken`
    (stop := ⟨h.cnt, fun i ha => (by cases ha), fun _ _ => rfl, h.ep⟩)
  intro s1
  have h1 : Inv0 s1 := inv0_register s h i hd
  have h2 : Inv0 { s1 with maxRev := some e } := h1.congr rfl rfl rfl rfl   -- no field reads `maxRev`
  exact ⟨fun _ => h1, fun hreb hleg => ⟨h2, fun _ => inv0_start _ h2 hd e (legalLeader_not_rebuilding s1 i e hreb hleg)⟩⟩

theorem inv0_run (rf n : Nat) (ops : List Op) : Inv0 ((init rf n).run ops) := run_ind inv0_step ops _ (inv0_init rf n)

/-- **C10 (all RW replicas of a volume report the same count).** `rf` and `n` arbitrary, ANY
    history, the volume stopping and restarting in any state: two replicas that are RW hold the same
    writes and report the same revision count, which is the number of writes they hold. -/
theorem c10_rw_replicas_agree (rf n : Nat) (ops : List Op) :
    let s := (init rf n).run ops
    ∀ i j, (s.node i).att = .rw → (s.node j).att = .rw →
      (s.node i).log = (s.node j).log ∧ (s.node i).rev = (s.node j).rev ∧ (s.node i).rev = (s.node i).log.length := by
  intro s i j hi hj
  have h := inv0_run rf n ops
  obtain ⟨a1, a2⟩ := h.rw i hi
  obtain ⟨b1, b2⟩ := h.rw j hj
  exact ⟨by rw [a1, b1], by rw [a2, b2], by rw [a2, a1]⟩

/-- **C04 / C05 at the level of the volume (a detached replica comes back only through a fresh
    add-and-rebuild).**  One step of ANY kind from ANY state: a replica directory that was not RW and is
    RW afterwards was either promoted by this step — it was attached WO, and now holds what its RW source
    holds — or it is the replica the election of this step ended on, the volume having been down. -/
theorem c05_rw_only_by_promotion_or_election (s : Sys) (op : Op) (i : Nat)
    (h0 : (s.node i).att ≠ .rw) (h1 : ((s.step op).1.node i).att = .rw) :
    (∃ src, op = .promote i src ∧ (s.node i).att = .wo ∧ (s.node src).att = .rw ∧
        ((s.step op).1.node i).log = (s.node src).log ∧ ((s.step op).1.node i).rev = (s.node src).rev) ∨
    (∃ r, op = .reg r i ∧ s.up = false ∧ (s.step op).2 = .leader i) := by
  -- a record put in place of `k` makes `i` RW only if `i = k` and the record is RW (stated with `(_, o).1`, the form
  -- the motive takes at a rule)
  have onlyAt {k : Nat} {nd : Node} {o : Out} {Q : Prop} (hq : i = k → nd.att = .rw → Q) :
      ((s.setNode k nd, o).1.node i).att = .rw → Q := fun h1 => (rw_of_setNode h0 h1).elim hq
  refine step_ind (P := fun op x => (x.1.node i).att = .rw → (∃ src, op = .promote i src ∧ (s.node i).att = .wo ∧
      (s.node src).att = .rw ∧ (x.1.node i).log = (s.node src).log ∧ (x.1.node i).rev = (s.node src).rev) ∨
      (∃ r, op = .reg r i ∧ s.up = false ∧ x.2 = .leader i)) s op (fun _ _ h1 => absurd h1 h0)
    (reg := fun r e hd _ => ?_) (write := fun f a ok _ _ h1 => absurd (writeNode_rw s f a i h1).1 h0)
    (add := fun k _ _ _ _ _ _ => onlyAt fun _ ha => by cases ha)
    (setrb := fun k _ _ hwo => onlyAt fun hik ha => by subst hik; rw [hwo] at ha; cases ha)
    (promote := fun k src _ _ _ hwo hsrc => onlyAt fun hik _ => ?_)
    (rbdone := fun k _ hrw _ => onlyAt fun hik _ => absurd (hik ▸ hrw) h0)
    (remove := fun k _ _ _ => onlyAt fun _ ha => by cases ha)
    (snap := fun _ _ h1 => absurd h1 h0) (stop := fun h1 => by cases h1) h1
  · intro s1
    have h0' : (s1.node i).att ≠ .rw := by
      rw [node_setNode_proj Node.att]
      · exact h0
      · rfl
    refine ⟨fun _ h1 => absurd h1 h0', fun _ _ => ⟨fun h1 => absurd h1 h0', fun _ h1 => ?_⟩⟩
    -- the volume is started on `e`: only `e` becomes RW
    obtain ⟨rfl, -⟩ := rw_of_setNode (s := { s1 with maxRev := some e }) h0' h1
    exact .inr ⟨r, rfl, hd, rfl⟩
  · subst hik
    rw [node_setNode_self]; exact .inl ⟨src, rfl, hwo, hsrc, rfl, rfl⟩

/-- **C02 / C04 at the level of the volume (a successful read reflects every acknowledged write).**
    ANY history, the volume stopped and restarted in any state: every replica that is RW — the
    replicas reads are served from — holds every write acknowledged since the volume was last
    started.  (For the writes acknowledged before the last restart see `c09_restart_serves_acked`.) -/
theorem c04_rw_replicas_hold_epoch_acks (rf n : Nat) (ops : List Op) :
    let s := (init rf n).run ops
    ∀ i, (s.node i).att = .rw → ∀ w ∈ s.ackedEpoch, w ∈ (s.node i).log := by
  intro s i hi w hw
  have h := inv0_run rf n ops
  rw [(h.rw i hi).1]
  exact h.ep w hw

end Jiva.Cluster
