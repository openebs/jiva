import JivaVerif.Lemmas.Remove
import JivaVerif.Lemmas.Cleaner
import JivaVerif.Model.Ops
import JivaVerif.Model.Replica
/-!
# C11 — deleting snapshots never changes live data or other retained snapshots

Deletion of chain member `k` is `coalesce k` (sfold of `k` onto `k-1`) followed by `removeIdx k`
(`RemoveDiffDisk`: drain, `RemoveIndex`, unlink).  I/O, snapshots and reads may come between the
two; the reclaimer is not scheduled in between (modelling assumption, see DESIGN.md).
-/
namespace Jiva.Properties
open Jiva DD
variable {β : Type} [Inhabited β]

/-- **C11 (live data).** Folding and unlinking `k` leaves the live volume as it was. -/
theorem c11_live_coalesce (d : DD β) (k u : Nat) (hk : 2 ≤ k) (hkt : k < d.top) :
    (d.coalesce k).live u = d.live u := live_coalesce d k u hk hkt

theorem c11_live_remove (d : DD β) (h : WF d) (k u : Nat) (hk : 2 ≤ k) (hkt : k < d.top)
    (hc : Coalesced d k) : (d.removeIdx k).live u = d.live u :=
  live_removeIdx d h k u hk hkt hc

/-- **C11 (other members).** The fold changes only the view of the merge target `k-1` (which takes
    the content of `k`); the unlink changes no view, it renumbers.  Hence a retained user-created
    snapshot is changed **iff** it is the merge target — exactly what the cleaner's filter excludes
    (the condition on the candidate's parent in `candidatesUpTo`). -/
theorem c11_others_coalesce (d : DD β) (k i u : Nat) (hk : 2 ≤ k) (hi : i ≠ k - 1) :
    (d.coalesce k).view i u = d.view i u := view_coalesce d k i u hk hi

theorem c11_target_takes_child (d : DD β) (k u : Nat) (hk : 2 ≤ k) :
    (d.coalesce k).view (k - 1) u = d.view k u := view_coalesce_parent d k u hk

theorem c11_others_remove (d : DD β) (k i u : Nat) (hk : 2 ≤ k) (hc : Coalesced d k) :
    (d.removeIdx k).view i u = if i < k then d.view i u else d.view (i + 1) u :=
  view_removeIdx d k i u hk hc

/-- what the fold establishes is what the unlink needs, and I/O in between keeps it -/
theorem c11_fold_establishes (d : DD β) (k : Nat) (hk : 2 ≤ k) : Coalesced (d.coalesce k) k :=
  coalesced_coalesce d k hk

/-- **C11 (invariant).** The location map, the cached SnapIndx and the marker array stay sound
    across a deletion that respects the filter. -/
theorem c11_inv (d : DD β) (h : WF d) (k : Nat) (hk : 2 ≤ k) (hkt : k < d.top)
    (hc : Coalesced d k) (hu1 : d.ur k = false) (hu2 : d.ur (k - 1) = false) : WF (d.removeIdx k) :=
  wf_removeIdx d h k hk hkt hc hu2

/-- **C11 (cleaner filter).** For every chain, attribute assignment and checkpoint position, every
    candidate of the background cleaner is strictly between the base and the checkpoint, is not a
    retained user-created snapshot, and its merge target is not one either; there are no candidates
    when the checkpoint is missing, is the base or the base's child, or the chain has at most three
    members. -/
theorem c11_cleaner (d : DD β) (ck k : Nat) (hk : k ∈ candidates d ck) :
    2 ≤ k ∧ k < ck ∧ d.ur k = false ∧ d.ur (k - 1) = false ∧ 3 < d.top ∧ 2 < ck := by
  unfold candidates at hk
  split at hk
  · simp at hk
  · have := mem_candidatesUpTo d (ck - 1) k hk
    exact ⟨this.1, by omega, this.2.2.1, this.2.2.2, by omega, by omega⟩

/-- consequently a candidate below a checkpoint that is a snapshot (`ck < top`) is admissible for
    `coalesce` — never the head, the latest snapshot or the base. -/
theorem c11_cleaner_admissible (d : DD β) (ck k : Nat) (hck : ck < d.top) (hk : k ∈ candidates d ck) :
    Adm d (.coalesce k : Op β) ∧ k + 1 < d.top := by
  have ⟨a, b, c, e, _, _⟩ := c11_cleaner d ck k hk
  exact ⟨⟨a, by omega, e, c⟩, by omega⟩

/-- **C11 (protected disks).** `PrepareRemoveDisk` refuses the latest snapshot and the base, and a
    refused request changes nothing (the head has no snapshot name and cannot be addressed; a
    replica that is closed or not RW refuses everything). -/
theorem c11_protected (r : Rep) (n : String) (hne : r.indexOf n ≠ 0)
    (h : r.indexOf n + 1 = r.dd.top ∨ r.indexOf n = 1) :
    r.step (.mark n) = (r, .refused) := by
  unfold Rep.step
  by_cases c1 : (!r.isOpen || r.mode ≠ .rw) = true
  · simp only [c1, if_true]
  · simp only [c1, hne, if_false]
    rcases h with h | h <;> simp [h]

theorem c11_wrong_mode_refused (r : Rep) (n : String) (h : r.isOpen = false ∨ r.mode ≠ .rw) :
    r.step (.mark n) = (r, .refused) ∧ r.step (.rm n) = (r, .refused) := by
  unfold Rep.step
  rcases h with h | h <;> simp [h]

end Jiva.Properties
