import JivaVerif.Model.Rpc
import JivaVerif.Lemmas.ListAux
/-!
# C15 — data-path RPC: frames round-trip, replies reach their request, failure poisons the connection
-/
namespace Jiva.Properties
open Jiva.Rpc

theorem leBytes_length (n x : Nat) : (leBytes n x).length = n := by
  induction n generalizing x with
  | zero => rfl
  | succ n ih => simp [leBytes, ih]

theorem leVal_leBytes (n x : Nat) : leVal (leBytes n x) = x % 256 ^ n := by
  induction n generalizing x with
  | zero => simp [leBytes, leVal, Nat.mod_one]
  | succ n ih =>
    simp only [leBytes, leVal, ih]
    rw [Nat.pow_succ, Nat.mul_comm (256 ^ n) 256, Nat.mod_mul]

/-- the bound in the form `Msg.WF` has it -/
theorem leVal_leBytes_lt {n x : Nat} (h : x < 2 ^ (8 * n)) : leVal (leBytes n x) = x := by
  rw [leVal_leBytes, Nat.mod_eq_of_lt]; rwa [Nat.pow_mul] at h

theorem take_leBytes (n x : Nat) (l : List Nat) : (leBytes n x ++ l).take n = leBytes n x :=
  List.take_left' (leBytes_length n x)
theorem drop_leBytes (n x : Nat) (l : List Nat) : (leBytes n x ++ l).drop n = l :=
  List.drop_left' (leBytes_length n x)

/-- **C15 (round trip).** Every well-formed frame — any type, sequence number, offset, size and
    payload shorter than 4 GiB — followed by any further bytes decodes to itself and leaves exactly
    those bytes. -/
theorem c15_roundtrip (m : Msg) (rest : List Nat) (hw : m.WF) (hm : m.magic = magicVersion) :
    decode (encode m ++ rest) = .ok m rest := by
  obtain ⟨w1, w2, w3, w4, w5, w6, -⟩ := hw
  -- `decode` takes the fields off the front one by one
  simp only [decode, encode, List.append_assoc, take_leBytes, drop_leBytes, List.length_append, leBytes_length,
    leVal_leBytes_lt (n := 2) w1, leVal_leBytes_lt (n := 4) w2, leVal_leBytes_lt (n := 4) w3,
    leVal_leBytes_lt (n := 8) w4, leVal_leBytes_lt (n := 8) w5, leVal_leBytes_lt (n := 4) w6,
    List.take_left, List.drop_left]
  rw [if_neg (by omega), if_neg (by simp [hm]), if_neg (by omega), if_neg (by omega)]

/-- **C15 (wrong magic is rejected before any other field is used).** -/
theorem c15_reject (bs : List Nat) (h2 : 2 ≤ bs.length) (hm : leVal (bs.take 2) ≠ magicVersion) :
    decode bs = .reject := by
  unfold decode
  rw [if_neg (Nat.not_lt.mpr h2)]
  exact if_pos hm

/-- **C15 (stream).** Two frames back to back decode in order (and so on by induction). -/
theorem c15_stream2 (m1 m2 : Msg) (rest : List Nat) (h1 : m1.WF) (h2 : m2.WF)
    (e1 : m1.magic = magicVersion) (e2 : m2.magic = magicVersion) :
    decode (encode m1 ++ (encode m2 ++ rest)) = .ok m1 (encode m2 ++ rest) ∧
    decode (encode m2 ++ rest) = .ok m2 rest :=
  ⟨c15_roundtrip m1 _ h1 e1, c15_roundtrip m2 _ h2 e2⟩

/-- the hypothesis on the payload length is sharp: a 2³²-byte payload is not round-tripped (the
    length field is `uint32(len(msg.Data))`) -/
theorem c15_len_field_wraps : leVal (leBytes 4 (2 ^ 32)) = 0 := by
  rw [leVal_leBytes]

theorem run_invariant {P : Cl → Prop} (hs : ∀ c e, P c → P (c.step e)) (evs : List Ev) : ∀ c, P c → P (c.run evs) := by
  induction evs with
  | nil => exact fun _ h => h
  | cons e es ih => exact fun c h => ih _ (hs c e h)

/-- in-flight sequence numbers are distinct (what `c15_match` uses) and at most `seq` (so the next one is fresh).
    `sent` is a ghost field: no `c15_*` theorem reads the three clauses about it. -/
def ClInv (c : Cl) : Prop :=
  (c.pending.map (·.1)).Nodup ∧ (∀ p ∈ c.pending, p.1 ≤ c.seq ∧ p ∈ c.sent) ∧
  (c.broken = true → c.pending = []) ∧ (c.sent.map (·.1)).Nodup ∧ (∀ p ∈ c.sent, p.1 ≤ c.seq)

theorem clinv_init : ClInv Cl.init := by simp [ClInv, Cl.init]

theorem clinv_step (c : Cl) (h : ClInv c) (e : Ev) : ClInv (c.step e) := by
  obtain ⟨h1, h2, h3, h4, h5⟩ := h
  cases e with
  | request id =>
    show ClInv (c.onRequest id)
    unfold Cl.onRequest; split
    · exact ⟨h1, h2, h3, h4, h5⟩
    · -- the new sequence number is above all those in use
      refine ⟨List.nodup_map_snoc h1 fun p hp => Nat.ne_of_lt (Nat.lt_succ_of_le (h2 p hp).1), ?_,
        fun hb => absurd hb ‹_›, List.nodup_map_snoc h4 fun p hp => Nat.ne_of_lt (Nat.lt_succ_of_le (h5 p hp)), ?_⟩ <;>
        simp only [List.forall_mem_append, List.forall_mem_singleton]
      · exact ⟨fun p hp => ⟨Nat.le_succ_of_le (h2 p hp).1, List.mem_append_left _ (h2 p hp).2⟩,
          Nat.le_refl _, List.mem_append_right _ (List.mem_singleton_self _)⟩
      · exact ⟨fun p hp => Nat.le_succ_of_le (h5 p hp), Nat.le_refl _⟩
  | response s t z =>
    show ClInv (c.onResponse s t z)
    unfold Cl.onResponse; split
    · exact ⟨h1, h2, h3, h4, h5⟩
    · split
      · exact ⟨(List.filter_sublist.map _).nodup h1, fun q hq => h2 q (List.mem_filter.mp hq).1,
          fun hb => absurd hb ‹_›, h4, h5⟩
      · exact ⟨h1, h2, h3, h4, h5⟩
  | transportErr =>
    show ClInv c.onErr
    unfold Cl.onErr; split
    · exact ⟨h1, h2, h3, h4, h5⟩
    · exact ⟨List.nodup_nil, nofun, fun _ => rfl, h4, h5⟩

theorem clinv_run (evs : List Ev) : ∀ c, ClInv c → ClInv (c.run evs) :=
  run_invariant (fun c e h => clinv_step c h e) evs

/-- **C15 (a reply completes exactly the request that was given its sequence number).** -/
theorem c15_match (c : Cl) (h : ClInv c) (s t z id : Nat) (hb : c.broken = false)
    (hp : (s, id) ∈ c.pending) :
    (c.step (.response s t z)).done = c.done ++ [(id, .ok t z)] ∧
    (s, id) ∉ (c.step (.response s t z)).pending ∧
    (∀ q ∈ c.pending, q.1 ≠ s → q ∈ (c.step (.response s t z)).pending) := by
  show (c.onResponse s t z).done = _ ∧ (s, id) ∉ (c.onResponse s t z).pending ∧
    (∀ q ∈ c.pending, q.1 ≠ s → q ∈ (c.onResponse s t z).pending)
  unfold Cl.onResponse
  simp only [hb, Bool.false_eq_true, if_false]
  cases hf : c.pending.find? (fun p => p.1 = s) with
  | none => exact absurd (decide_eq_true rfl) (List.find?_eq_none.mp hf (s, id) hp)
  | some p =>
    -- distinct sequence numbers: the entry found is the pair (s, id)
    have hps := List.find?_some hf
    obtain rfl : p = (s, id) :=
      List.inj_of_nodup_map h.1 (List.mem_of_find?_eq_some hf) hp (of_decide_eq_true hps)
    exact ⟨rfl, fun hm => of_decide_eq_true (List.mem_filter.mp hm).2 rfl,
      fun q hq hne => List.mem_filter.mpr ⟨hq, decide_eq_true hne⟩⟩

/-- an unknown sequence number completes nothing -/
theorem c15_unknown_seq (c : Cl) (s t z : Nat) (h : ∀ p ∈ c.pending, p.1 ≠ s) : c.step (.response s t z) = c := by
  have : c.pending.find? (fun p => p.1 = s) = none := by
    rw [List.find?_eq_none]; intro p hp; simpa using h p hp
  show c.onResponse s t z = c
  unfold Cl.onResponse
  rw [this]; split <;> rfl

/-- **C15 (poison).** A transport error (read/write failure, or a request that exceeded its
    deadline) completes every in-flight request with an error, notifies the owner exactly once, and
    from then on every request fails at once and no reply is accepted. -/
theorem c15_poison (c : Cl) (hb : c.broken = false) :
    let c' := c.step .transportErr
    c'.broken = true ∧ c'.pending = [] ∧ c'.notified = c.notified + 1 ∧
    c'.done = c.done ++ c.pending.map (fun p => (p.2, .err)) ∧
    (∀ id, (c'.step (.request id)).done = c'.done ++ [(id, .err)] ∧ (c'.step (.request id)).pending = []) ∧
    (∀ s t z, c'.step (.response s t z) = c') ∧ c'.step .transportErr = c' := by
  simp [Cl.step, Cl.onErr, Cl.onRequest, Cl.onResponse, hb]

theorem notified_step (c : Cl) (e : Ev) (h : c.notified = c.broken.toNat) :
    (c.step e).notified = (c.step e).broken.toNat := by
  cases e with
  | request id => simp only [Cl.step, Cl.onRequest]; split <;> exact h
  | response s t z =>
    simp only [Cl.step, Cl.onResponse]; split
    · exact h
    · split <;> exact h
  | transportErr =>
    simp only [Cl.step, Cl.onErr]; split
    · exact h
    · rename_i hb; show c.notified + 1 = 1; rw [h, (Bool.not_eq_true _).mp hb]; rfl

/-- the owner is notified at most once over any history -/
theorem c15_notified_once (evs : List Ev) : (Cl.init.run evs).notified ≤ 1 := by
  rw [run_invariant notified_step evs Cl.init rfl]; exact Bool.toNat_le _

/-- server side: the reply to a write carries no payload, the reply to a read carries what was
    read, an error reply carries the error text -/
theorem c15_createResponse (m : Msg) :
    (createResponse m .none).typ = typeResponse ∧ (createResponse m .none).seq = m.seq ∧
    (createResponse m .none).size = m.data.length ∧
    (m.typ = typeWrite → (createResponse m .none).data = []) ∧
    (m.typ ≠ typeWrite → (createResponse m .none).data = m.data) ∧
    (∀ t, (createResponse m (.err t)).typ = typeError ∧ (createResponse m (.err t)).data = t) :=
  ⟨rfl, rfl, rfl, fun h => if_pos h, fun h => if_neg h, fun _ => ⟨rfl, rfl⟩⟩

example : decode (encode ⟨magicVersion, 7, 1, 4096, 3, [1, 2, 3]⟩ ++ [9, 9]) =
    .ok ⟨magicVersion, 7, 1, 4096, 3, [1, 2, 3]⟩ [9, 9] := by decide +kernel
example : ((Cl.init.run [.request 10, .request 11, .response 2 2 5, .transportErr, .request 12]).done) =
    [(11, .ok 2 5), (10, .err), (12, .err)] := by decide +kernel

end Jiva.Properties
