import JivaVerif.Properties.Controller
/-!
# C02 / C05 — every replica in service holds every acknowledged write (history level)

`Hist` is ghost state beside the controller model: the number of write requests so far, which of them were acknowledged,
which backend (by id) applied which request, and since which request each backend has been attached.
`c02_in_service_holds_acked` rests on `keeps_step`: no request brings a backend marked ERR back into service — a replica
that returns is attached under a fresh id.  (What was written before a backend was attached reaches it through the
rebuild — C07.)
-/
namespace Jiva.Properties
open Jiva Ctl

/-- **who is still in service after an acknowledged fan-out applied it**: every backend that is not
    ERR afterwards was sent the request and is not among those that failed it -/
theorem fanOut_ok_applied (c : Ctl) (h : CInv c) (m : String) (fails : List String)
    (hok : (c.stepFanOut m fails).2 = .ok) :
    ∀ b ∈ (c.stepFanOut m fails).1.backends, b.mode ≠ .err →
      (b.id, m) ∈ (c.stepFanOut m fails).1.calls ∧ fails.contains b.addr = false := by
  have hav := ((stepFanOut_ok_iff c m fails).mp hok).1
  -- from the state in which everybody was called, replicas are only marked and removed
  have p : Pres (c.writers.foldl (fun c w => c.call w.2 m) c) (c.stepFanOut m fails).1 := by
    simp only [stepFanOut, hav, Bool.not_true, Bool.false_eq_true, if_false, apply_ite Prod.fst]
    exact iteInduction (motive := Pres _) (fun _ => .refl _) fun _ => pres_ioFail ..
  intro b hb hal
  obtain ⟨b0, hb0, e1, e2, e3⟩ := p.backs b hb
  rw [foldl_call] at hb0
  have hw : (b0.addr, b0.id) ∈ c.writers := by
    rw [h.core.fanout.1]
    exact List.mem_map.mpr ⟨b0, List.mem_filter.mpr ⟨hb0, decide_eq_true (e3 hal)⟩, rfl⟩
  refine ⟨p.calls _ ?_, Bool.eq_false_iff.mpr fun hf => ?_⟩
  · rw [foldl_call, ← e1]
    exact List.mem_append_right _ (List.mem_map.mpr ⟨_, hw, rfl⟩)
  · -- a writer that failed is detached: its address names no backend afterwards
    have gone := (c02_failed_detached c h m fails hav b.addr
      (List.mem_map.mpr ⟨_, List.mem_filter.mpr ⟨hw, e2 ▸ hf⟩, e2⟩)).2
    exact absurd (List.find?_eq_none.mp gone b hb) (by simp)

/-- the same for `Controller.WriteAt` with its range check, its read-only gate and the widening read -/
theorem write_ok_applied (c : Ctl) (h : CInv c) (off len : Nat) (fails : List String) (tried : List (String × Out))
    (hok : (c.stepWrite off len fails tried).2 = .ok) :
    ∀ b ∈ (c.stepWrite off len fails tried).1.backends, b.mode ≠ .err →
      (b.id, "WriteAt") ∈ (c.stepWrite off len fails tried).1.calls ∧ fails.contains b.addr = false := by
  have s := stepWrite_spec c off len fails tried
  cases hs : writeFanOutState c off len tried with
  | none => rw [hs] at s; exact absurd hok s
  | some c' =>
    rw [hs] at s
    rw [s.1] at hok ⊢
    exact fanOut_ok_applied c' (writeFanOutState_inv h hs).1 _ fails hok

structure Hist where
  n       : Nat                 -- write requests so far
  acked   : List Nat            -- those reported successful
  applied : List (Nat × Nat)    -- (backend id, request): it was sent the request and did not fail it
  since   : List (Nat × Nat)    -- (backend id, number of the first request issued after it was attached)

def Hist.init : Hist := ⟨0, [], [], []⟩

def Hist.step (h : Hist) (c : Ctl) (op : CtlOp) : Hist :=
  let r := c.step op
  let fresh := r.1.backends.filter fun b => c.nextId ≤ b.id
  match op with
  | .write _ _ fails _ =>
    { n := h.n + 1
      acked := if r.2 = .ok then h.acked ++ [h.n] else h.acked
      applied := h.applied ++ ((r.1.backends.filter fun b =>
          r.1.calls.contains (b.id, "WriteAt") && !fails.contains b.addr).map fun b => (b.id, h.n))
      since := h.since ++ fresh.map fun b => (b.id, h.n + 1) }
  | _ => { h with since := h.since ++ fresh.map fun b => (b.id, h.n) }

def runHist : Ctl → Hist → List CtlOp → Ctl × Hist
  | c, h, [] => (c, h)
  | c, h, op :: ops => runHist (c.step op).1 (h.step c op) ops

structure HInv (c : Ctl) (h : Hist) : Prop where
  holds : ∀ b ∈ c.backends, b.mode ≠ .err →
    ∃ s, (b.id, s) ∈ h.since ∧ s ≤ h.n ∧ ∀ w ∈ h.acked, s ≤ w → (b.id, w) ∈ h.applied
  past  : ∀ w ∈ h.acked, w < h.n

theorem hinv_init (rf : Nat) : HInv (Ctl.init rf) Hist.init :=
  ⟨fun _ => nofun, fun _ => nofun⟩

theorem Hist.step_spec (h : Hist) (c : Ctl) (hc : CInv c) (op : CtlOp) :
    h.n ≤ (h.step c op).n ∧ (∀ x ∈ h.applied, x ∈ (h.step c op).applied) ∧
    (∀ x ∈ h.since, x ∈ (h.step c op).since) ∧
    (∀ b ∈ (c.step op).1.backends, c.nextId ≤ b.id → (b.id, (h.step c op).n) ∈ (h.step c op).since) ∧
    ∀ w ∈ (h.step c op).acked, w ∈ h.acked ∨ w = h.n ∧ h.n < (h.step c op).n ∧
      ∀ b ∈ (c.step op).1.backends, b.mode ≠ .err → (b.id, w) ∈ (h.step c op).applied := by
  have fresh : ∀ (n : Nat) (l : List (Nat × Nat)), ∀ b ∈ (c.step op).1.backends, c.nextId ≤ b.id →
      (b.id, n) ∈ l ++ ((c.step op).1.backends.filter fun b => c.nextId ≤ b.id).map fun b => (b.id, n) :=
    fun n l b hb hk => List.mem_append_right _ (List.mem_map.mpr ⟨b, List.mem_filter.mpr ⟨hb, by simpa using hk⟩, rfl⟩)
  unfold Hist.step
  split
  next off len fails tried =>
    refine ⟨Nat.le_succ _, fun x hx => List.mem_append_left _ hx, fun x hx => List.mem_append_left _ hx,
      fresh (h.n + 1) h.since, fun w hw => ?_⟩
    change w ∈ (if _ then h.acked ++ [h.n] else h.acked) at hw
    by_cases hok : (c.step (.write off len fails tried)).2 = .ok
    case neg => rw [if_neg hok] at hw; exact .inl hw
    rw [if_pos hok] at hw
    rcases List.mem_append.mp hw with hw | hw
    · exact .inl hw
    -- the write just issued: everybody still in service was sent it and did not fail it
    cases List.mem_singleton.mp hw
    refine .inr ⟨rfl, Nat.lt_succ_self _, fun b hb hal => ?_⟩
    have ap : (b.id, "WriteAt") ∈ (c.step (.write off len fails tried)).1.calls ∧ fails.contains b.addr = false :=
      write_ok_applied c.clearLog (hc.frame (.set ..)) off len fails tried hok b hb hal
    refine List.mem_append_right _ (List.mem_map.mpr ⟨b, List.mem_filter.mpr ⟨hb, ?_⟩, rfl⟩)
    rw [List.contains_iff_mem.mpr ap.1, ap.2]; rfl
  next =>
    exact ⟨Nat.le_refl _, fun x hx => hx, fun x hx => List.mem_append_left _ hx, fresh h.n h.since, fun w hw => .inl hw⟩

theorem hinv_step (c : Ctl) (hc : CInv c) (h : Hist) (hi : HInv c h) (op : CtlOp) :
    HInv (c.step op).1 (h.step c op) := by
  obtain ⟨hn, happ, hsince, hfresh, hack⟩ := h.step_spec c hc op
  have past : ∀ w ∈ (h.step c op).acked, w < (h.step c op).n := by
    intro w hw
    rcases hack w hw with hw | ⟨rfl, hlt, _⟩
    · exact Nat.lt_of_lt_of_le (hi.past w hw) hn
    · exact hlt
  refine ⟨fun b hb hal => ?_, past⟩
  by_cases hlt : b.id < c.nextId
  · -- in service before (no request brings a backend back under its id): its attachment point stays
    rcases keeps_step c hc op b.id ⟨b, hb, rfl, hal⟩ with hk | ⟨b0, hb0, e0, h0⟩
    · omega
    · obtain ⟨s, s1, s2, s3⟩ := hi.holds b0 hb0 h0
      rw [e0] at s1 s3
      refine ⟨s, hsince _ s1, Nat.le_trans s2 hn, fun w hw hsw => ?_⟩
      rcases hack w hw with hw | ⟨_, _, hall⟩
      · exact happ _ (s3 w hw hsw)
      · exact hall b hb hal
  · -- attached by this request: nothing acknowledged so far is at or after its attachment point
    exact ⟨_, hfresh b hb (Nat.le_of_not_lt hlt), Nat.le_refl _, fun w hw hsw => absurd (past w hw) (Nat.not_lt.mpr hsw)⟩

theorem hinv_run (ops : List CtlOp) : ∀ (c : Ctl) (h : Hist), CInv c → HInv c h →
    HInv (runHist c h ops).1 (runHist c h ops).2 := by
  induction ops with
  | nil => intro c h _ hi; exact hi
  | cons op ops ih =>
    intro c h hc hi
    exact ih _ _ (cinv_step c hc op) (hinv_step c hc h hi op)

theorem runHist_fst (ops : List CtlOp) : ∀ (c : Ctl) (h : Hist), (runHist c h ops).1 = c.run ops := by
  induction ops with
  | nil => intro c h; rfl
  | cons op ops ih => intro c h; exact ih _ _

/-- **C02 / C05 (every replica in service holds every acknowledged write).** After ANY list of
    requests, with any replication factor and any answers of the environment: every backend that is
    not marked failed — it is in the fan-out list, RW or rebuilding — has an attachment point, and has
    applied every write that was acknowledged from that point on. -/
theorem c02_in_service_holds_acked (rf : Nat) (hrf : 1 ≤ rf) (ops : List CtlOp) :
    let c := (Ctl.init rf).run ops
    let h := (runHist (Ctl.init rf) Hist.init ops).2
    ∀ b ∈ c.backends, b.mode ≠ .err →
      ∃ s, (b.id, s) ∈ h.since ∧ ∀ w ∈ h.acked, s ≤ w → (b.id, w) ∈ h.applied := by
  intro c h b hb hal
  have hi := hinv_run ops (Ctl.init rf) Hist.init (cinv_init rf hrf) (hinv_init rf)
  rw [runHist_fst] at hi
  obtain ⟨s, s1, _, s3⟩ := hi.holds b hb hal
  exact ⟨s, s1, s3⟩

/-- non-vacuity (a test): RF 3; a write with two replicas, a third one is attached afterwards (its
    attachment point is request 1) and rebuilt; the next write fails on one replica and is acknowledged
    by the other two, which also take the last one: three acknowledged writes, the backend attached
    later applied those from its attachment on, the one that failed is gone -/
example :
    let ops : List CtlOp :=
      [.register ⟨"a", "ua", 5, false⟩ true true "a", .register ⟨"b", "ub", 3, false⟩ true true "a",
       .start [⟨"tcp://a:9502", true, 1048576, true, "NA", true, some 5⟩] CkEnv.none,
       .add "tcp://b:9502" none true [] true true CkEnv.none,
       .verify "tcp://b:9502" (some ["h1", "s1"]) (some ["h0", "s1"]) (some "") (some 5) true true CkEnv.none,
       .write 0 4096 [] [],
       .add "tcp://c:9502" none true [] true true CkEnv.none,
       .verify "tcp://c:9502" (some ["h2", "s2", "s1"]) (some ["h0", "s2", "s1"]) (some "") (some 6) true true CkEnv.none,
       .write 0 4096 ["tcp://b:9502"] [], .write 4096 4096 [] []]
    let r := runHist (Ctl.init 3) Hist.init ops
    r.2.acked = [0, 1, 2] ∧ r.1.backends.map (·.id) = [0, 2] ∧
    r.2.applied = [(0, 0), (1, 0), (0, 1), (2, 1), (0, 2), (2, 2)] ∧ r.2.since = [(0, 0), (1, 0), (2, 1)] := by decide +kernel

end Jiva.Properties
