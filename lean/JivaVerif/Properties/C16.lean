import JivaVerif.Lemmas.InVol
import JivaVerif.Lemmas.Reopen
import JivaVerif.Model.Replica
/-!
# C16 — growing a volume keeps all data; shrinking is refused
Replica side (`Replica.Resize`): the location map is extended with unknown entries, every chain
file is truncated to the new size (no block becomes allocated).  Controller side: see
`Properties/Controller.lean` (`c16_ctl_*`).
-/
namespace Jiva.Properties
open Jiva DD
variable {β : Type} [Inhabited β]

/-- **C16 (grow keeps data).** Every unit of the volume and of every snapshot reads as before. -/
theorem c16_grow_keeps (d : DD β) (nb' i u : Nat) : (d.resize nb').view i u = d.view i u := rfl

/-- **C16 (added range is zero).** Units beyond the old size read zero — live and in every
    snapshot — and `ReadAt` really returns that. -/
theorem c16_added_range_zero (d : DD β) (h : WF d) (hv : InVol d) (nb' : Nat) (hn : d.nb ≤ nb')
    (u : Nat) (h1 : d.nb * d.bs ≤ u) (h2 : u < nb' * d.bs) :
    (d.resize nb').readUnit u = default := by
  have hw := wf_resize d h nb' hn
  have hu : u / d.bs < nb' := (Nat.div_lt_iff_lt_mul h.bs_pos).mpr h2
  rw [readUnit_eq_live (d.resize nb') hw u hu]
  have : d.nb ≤ u / d.bs := (Nat.le_div_iff_mul_le h.bs_pos).mpr h1
  exact view_zero_outside d hv d.top u this

/-- **C16 (added range accepts writes).** A write into the added range is an ordinary admissible
    write: it reads back and touches nothing else. -/
theorem c16_added_range_writable (d : DD β) (h : WF d) (nb' : Nat) (hn : d.nb ≤ nb')
    (off len : Nat) (buf : Nat → β) (hr : off + len ≤ nb' * d.bs) (u : Nat) :
    ((d.resize nb').write off len buf).live u = if off ≤ u ∧ u < off + len then buf u else d.live u :=
  (writeOk_write (d.resize nb') (wf_resize d h nb' hn) off len buf hr).live u

/-- **C16 (survives reopen).** -/
theorem c16_size_survives_reopen (d : DD β) (nb' : Nat) (pre : Bool) :
    ((d.resize nb').reopen pre).nb = nb' := by rw [reopen_eq]; rfl

/-- **C16 (composes).** Growing is one more admissible request: the invariant and the refinement
    to the abstract volume are preserved (`wf_step`, `refines_step`, `inVol_step` cover `.resize`). -/
theorem c16_inv (d : DD β) (h : WF d) (nb' : Nat) (hn : d.nb ≤ nb') : WF (d.resize nb') :=
  wf_resize d h nb' hn

/-- **C16 (shrink refused).** A smaller size is refused by the replica and nothing changes. -/
theorem c16_shrink_refused (r : Rep) (nb' : Nat) (hs : nb' < r.dd.nb) :
    r.step (.resize nb') = (r, .refused) := by
  unfold Rep.step; simp [hs]

example : (DD.init 8 4 : DD Nat).nb ≤ 6 ∧ WF (DD.init 8 4 : DD Nat) := ⟨by decide, wf_init 8 4 (by decide)⟩

end Jiva.Properties
