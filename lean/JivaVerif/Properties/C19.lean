import JivaVerif.Lemmas.Reopen
import JivaVerif.Lemmas.CtlAdd
import JivaVerif.Lemmas.Rep
/-!
# C19 — a clone replica holds exactly the source snapshot and serves only when done

Replica part: the clone of snapshot `k` is `DD.cloneOf d k`.  Controller part: `Start` of the new
volume polls the clone status and makes the replica RW only on `completed` / `NA`; on `error` the
replica is removed (`Ctl.stepStart`, whose `clone` argument is the status the polling loop ended on).
The order of the steps of the clone procedure itself (transfer, clone info, reload, map, then the
status) is tied to `sync/sync.go` and `app/replica.go` by the T1 facts `cloneReplicaOrder`,
`appCloneOrder`, `cloneStatusOrder` and `cloneStatusLoop`.
-/
namespace Jiva.Properties
open Jiva DD Ctl
variable {β : Type} [Inhabited β]

/-- the invariant holds for the finished clone -/
theorem c19_clone_wf (d : DD β) (h : WF d) (k : Nat) : WF (d.cloneOf k) :=
  cloneOf_eq_revert d k ▸ wf_revert d h.wfs k

/-- **C19 (image).** Every unit of the clone reads exactly as the source snapshot `k` shows it —
    whatever the source's head and its newer snapshots contain, whatever its location map and its
    queue of pending punch requests look like. -/
theorem c19_image (d : DD β) (h : WF d) (k : Nat) (u : Nat) (hu : u / d.bs < d.nb) :
    (d.cloneOf k).readUnit u = d.view k u :=
  (readUnit_eq_live _ (c19_clone_wf d h k) u hu).trans (cloneOf_eq_revert d k ▸ live_revert d k u)

/-- every older snapshot of the clone also equals the source's -/
theorem c19_ancestors (d : DD β) (k i u : Nat) (hi : i ≤ k) : (d.cloneOf k).view i u = d.view i u :=
  cloneOf_eq_revert d k ▸ view_revert d k i u hi

/-- the clone is independent of everything above the snapshot: two sources that agree up to `k`
    give the same clone image (writes and snapshots taken at the source after `k`, during or before
    the copy, do not matter) -/
theorem c19_later_history_irrelevant (d e : DD β) (hd : WF d) (he : WF e) (k u : Nat)
    (hb : e.bs = d.bs) (hn : e.nb = d.nb) (hf : ∀ j, j ≤ k → e.files j = d.files j) (hu : u / d.bs < d.nb) :
    (e.cloneOf k).readUnit u = (d.cloneOf k).readUnit u := by
  rw [c19_image d hd k u hu, c19_image e he k u (by rw [hb, hn]; exact hu)]
  show viewUpTo e.files e.bs k u = viewUpTo d.files d.bs k u
  rw [hb]
  exact viewUpTo_congr_files _ _ _ _ _ fun j _ hj => hf j hj

/-- one recorded counter per snapshot name -/
def RecsWF (r : Rep) : Prop := r.recs.length = r.names.length

/-- every request keeps the recorded counters aligned with the chain, so the counter the clone is
    given (`recs[k-1]` for the snapshot at index `k`) is always an actual recorded value — the default
    of the model's `getD` is never used -/
theorem c19_recs_aligned_step (r : Rep) (h : RecsWF r) (op : RepOp) : RecsWF (r.step op).1 := by
  unfold RecsWF at *
  -- `apply_ite` takes the claim to the leaves of `Rep.step`: there the two lists are the old ones (`h`) or changed alike
  cases op <;> simp only [Rep.step, apply_ite fun x : Rep × RepOut => x.1.recs.length = x.1.names.length,
    Rep.bumpRecs, List.length_map, List.length_append, List.length_take, List.length_eraseIdx, List.length_set,
    List.length_singleton, h, ite_self]
  case write => cases r.mode <;> simp only [h, ite_self]

theorem c19_recs_aligned (ops : List RepOp) : ∀ r : Rep, RecsWF r → RecsWF (r.run ops) := by
  induction ops with
  | nil => intro r h; exact h
  | cons op ops ih => intro r h; exact ih _ (c19_recs_aligned_step r h op)

/-- the counter recorded for a snapshot is the replica's counter at the moment the snapshot was taken -/
theorem c19_recorded_at_snapshot (r : Rep) (n : String) (u : Bool)
    (hok : (r.step (.snap n u)).2 = .ok) :
    (r.step (.snap n u)).1.recs.getLast? = some r.rev ∧ (r.step (.snap n u)).1.names.getLast? = some n := by
  rcases Rep.step_snap_cases r n u with ⟨e, _⟩ | ⟨_, _, e⟩
  · rw [e] at hok; cases hok
  · rw [e]; exact ⟨List.getLast?_concat .., List.getLast?_concat ..⟩

/-! ### the new volume's controller -/

theorem startOne_gate (c : Ctl) (e : StartEnv) :
    (c.startOne e).2 = true ∧ e.clone ≠ "error" ∧ e.clone ≠ "callfail" ∨
    (c.startOne e).2 = false ∧ (c.hasReplica e.addr = false → (c.startOne e).1.hasReplica e.addr = false) := by
  rcases startOne_cases c e with ⟨d, f, h⟩ | ⟨d, d', _, _, _, _, h | ⟨h1, h2, h⟩⟩ <;> rw [h]
  · have : d.replicas = c.replicas := f.elim (·.replicas) (·.replicas)
    exact .inr ⟨rfl, fun hno => by unfold hasReplica; exact this ▸ hno⟩
  · exact .inr ⟨rfl, fun _ => hasReplica_removeReplica_self ..⟩
  · exact .inl ⟨rfl, h1, h2⟩

/-- **C19 (gate).** If the polling of the clone status of a replica ended on `error` (or the status
    call failed), its attachment fails — `Start` returns the error — and the replica is not part of
    the volume afterwards: neither readable nor writable. -/
theorem c19_error_not_served (c : Ctl) (e : StartEnv) (hno : c.hasReplica e.addr = false)
    (he : e.clone = "error" ∨ e.clone = "callfail") :
    (c.startOne e).2 = false ∧ (c.startOne e).1.hasReplica e.addr = false := by
  rcases startOne_gate c e with ⟨_, h1, h2⟩ | ⟨hf, hg⟩
  · exact absurd he fun h => h.elim h1 h2
  · exact ⟨hf, hg hno⟩

theorem startLoop_true_clone (es : List StartEnv) : ∀ (c : Ctl), (c.startLoop es).2 = true →
    ∀ e ∈ es, e.clone ≠ "error" ∧ e.clone ≠ "callfail" := by
  induction es with
  | nil => intro c _ e he; cases he
  | cons x xs ih =>
    intro c h e he
    rcases startOne_gate c x with ⟨hx, hc⟩ | ⟨hx, _⟩
    · rw [startLoop, if_pos hx] at h
      rcases List.mem_cons.mp he with rfl | he
      · exact hc
      · exact ih _ h e he
    · rw [startLoop, hx] at h; cases h

/-- **C19 (gate, converse).** A `Start` that succeeds ended the polling of every replica it attached
    on a status other than `error`: the polling loop (T1 fact `cloneStatusLoop`) leaves only on
    `completed` / `NA` / `error`. -/
theorem c19_served_only_when_done (c : Ctl) (es : List StartEnv) (ck : CkEnv) (h0 : ¬ c.replicas.length > 0)
    (hok : (c.stepStart es ck).2 = .ok) :
    ∀ e ∈ es, e.clone ≠ "error" ∧ e.clone ≠ "callfail" := by
  cases es with
  | nil => intro e he; cases he
  | cons e0 rest => exact startLoop_true_clone _ _ (stepStart_ok c e0 rest ck h0 hok).1

private def srcDemo : DD Nat :=
  ((((DD.init 8 2).write 0 8 (fun u => 7 + u)).snapshot true).write 2 3 (fun _ => 99)).snapshot false

/-- cloning the first snapshot of a source that went on writing gives the first snapshot's image -/
example : (srcDemo.cloneOf 1).readUnit 2 = 9 ∧ srcDemo.live 2 = 99 ∧ (srcDemo.cloneOf 2).readUnit 2 = 99 := by
  decide +kernel

end Jiva.Properties
