import JivaVerif.Lemmas.Widen
import JivaVerif.Lemmas.Window
import JivaVerif.Lemmas.Reopen
/-!
# C07 — a rebuilt replica is byte-identical to its source before it serves reads (replica part)

The rebuilt replica is assembled from (a) extent-for-extent copies of the source's snapshot files
(everything below the source's head, from the sync point upward — here: all of them) and (b) its own
head, which has received every write since both replicas took the add-time snapshot inside one
controller critical section.  It is then reloaded without preload, its location map is rebuilt by
`UpdateLUNMap`, and only then does the controller promote it (`c07_gate`, `c07_single_wo` in
`Properties/Controller.lean`).
-/
namespace Jiva.Properties
open Jiva DD
variable {β : Type} [Inhabited β]

/-- the rebuilt replica right after `Reload`: the source's snapshot files, the target's own head `h`,
    an empty location map, markers and SnapIndx recomputed from the (copied) metadata -/
def graft (s : DD β) (h : File β) : DD β :=
  fresh { s with files := fun i => if i = s.top then h else s.files i }

/-- the two heads received the same writes: same allocated blocks, same content there -/
def SameWrites (bs : Nat) (a b : File β) : Prop :=
  (∀ blk, a.alloc blk = b.alloc blk) ∧ (∀ u, a.alloc (u / bs) = true → a.data u = b.data u)

/-- **C07 (identical).** If the target's head holds exactly what the source's head holds, then after
    the reload every view of the rebuilt replica — the live volume and every snapshot — equals the
    source's. -/
theorem c07_identical (s : DD β) (h : File β) (hw : SameWrites s.bs h (s.files s.top)) (i u : Nat) :
    (graft s h).view i u = s.view i u := by
  show viewUpTo (fun j => if j = s.top then h else s.files j) s.bs i u = viewUpTo s.files s.bs i u
  refine viewUpTo_congr _ _ _ _ _ fun j _ _ => ?_
  by_cases e : j = s.top
  · rw [if_pos e, e]; exact ⟨hw.1 _, hw.2 u⟩
  · rw [if_neg e]; exact ⟨rfl, fun _ => rfl⟩

/-- the rebuilt replica satisfies the invariant (its location map is empty, so nothing can be stale) -/
theorem c07_graft_wf (s : DD β) (hs : WF s) (h : File β) (hw : SameWrites s.bs h (s.files s.top)) :
    WF (graft s h) := by
  have htop := hs.top_pos
  refine wf_fresh (s.setHead h) ⟨hs.bs_pos, htop, fun b => ?_, fun j hj b => ?_, hs.ucLt⟩
  · rw [show (s.setHead h).files 0 = s.files 0 from if_neg (by omega)]; exact hs.empty0 b
  · have hj' : s.top < j := hj
    rw [show (s.setHead h).files j = s.files j from if_neg (by omega)]; exact hs.emptyAbove j hj' b

/-- **C07 (merge).** `UpdateLUNMap` keeps the invariant — the merged location map is sound for every
    block, whichever blocks foreground writes touched since the reload — and changes no content. -/
theorem c07_merge_inv (d : DD β) (h : WF d) : WF d.lunmap ∧ ∀ i u, d.lunmap.view i u = d.view i u :=
  ⟨wf_lunmap d h, view_lunmap d⟩

/-- after the reload and the merge every unit of the volume reads on the rebuilt replica what the source shows -/
theorem c07_reads_after_promotion (s : DD β) (hs : WF s) (h : File β) (hw : SameWrites s.bs h (s.files s.top))
    (u : Nat) (hu : u / s.bs < s.nb) : (graft s h).lunmap.readUnit u = s.live u :=
  (readUnit_lunmap _ (c07_graft_wf s hs h hw) u hu).trans (c07_identical s h hw s.top u)

/-! ### foreground writes inside `UpdateLUNMap`'s window

`Server.UpdateLUNMap` releases the server lock while it scans the extents (`PreloadLunMap`) and takes it
again for the merge: foreground writes land in between.  They reach the rebuilding replica as whole
blocks (the controller widens every request while it is attached). -/

/-- the state after a list of whole-block writes `(first block, number of blocks, data)` -/
def windowWrites (d : DD β) (ws : List (Nat × Nat × (Nat → β))) : DD β :=
  ws.foldl (fun d w => d.fullWrite w.1 w.2.1 w.2.2) d

omit [Inhabited β] in
theorem windowWrites_later (d0 : DD β) (ws : List (Nat × Nat × (Nat → β)))
    (hr : ∀ w ∈ ws, w.1 + w.2.1 ≤ d0.nb) :
    ∀ d, Later d0 d → WF d → Later d0 (windowWrites d ws) ∧ WF (windowWrites d ws) := by
  induction ws with
  | nil => intro d l h; exact ⟨l, h⟩
  | cons w ws ih =>
    intro d l h
    exact ih (fun x hx => hr x (List.mem_cons_of_mem _ hx)) (d.fullWrite w.1 w.2.1 w.2.2)
      (later_fullWrite d0 d l w.1 w.2.1 w.2.2)
      (wf_fullWrite d h w.1 w.2.1 w.2.2 (by rw [l.nb]; exact hr w List.mem_cons_self))

/-- **C07 (writes inside the window of `UpdateLUNMap`).** The extents are scanned in state `d0`; ANY
    list of whole-block foreground writes lands before the merge.  The merged replica satisfies the
    invariant — its location map is sound, every punch request it queued (also those for the copies
    the writes shadowed) is safe for every retained user snapshot — no content changes, and every unit
    reads the volume as the writes left it. -/
theorem c07_window_writes (d0 : DD β) (h0 : WF d0) (ws : List (Nat × Nat × (Nat → β)))
    (hr : ∀ w ∈ ws, w.1 + w.2.1 ≤ d0.nb) :
    WF (d0.lunmapAfter (windowWrites d0 ws)) ∧
    (∀ i u, (d0.lunmapAfter (windowWrites d0 ws)).view i u = (windowWrites d0 ws).view i u) ∧
    ∀ u, u / d0.bs < d0.nb → (d0.lunmapAfter (windowWrites d0 ws)).readUnit u = (windowWrites d0 ws).live u := by
  obtain ⟨l, h⟩ := windowWrites_later d0 ws hr d0 (Later.refl d0) h0
  exact ⟨wf_lunmapAfter d0 _ h0 h l, view_lunmapAfter d0 _,
    fun u hu => readUnit_lunmapAfter d0 _ h0 h l u (by rw [l.bs, l.nb]; exact hu)⟩

/-- the guard matters (seed C07d): with `≥` instead of `>` the merge would queue the copy held by the
    latest user-created snapshot itself, and applying that request changes the snapshot's image — a
    concrete instance (a test) -/
example :
    let d0 : DD Nat := (((DD.init 2 2).fullWrite 0 2 (fun u => 10 + u)).snapshot true).setPunch true
    let d := d0.fullWrite 0 1 (fun u => 90 + u)
    (d0.lunmapAfter d).pend = [] ∧ (d0.lunmapAfter d).view 1 0 = 10 := by decide +kernel

/-! ### foreground writes while the rebuild runs

The controller sends every write to the source (RW) and to the target (WO).  A replica completes a
write that does not cover whole blocks by reading the rest of the block from its own chain
(`readModifyWrite`); the target's chain is incomplete until the reload, so it must never have to do
that.  `Controller.widenForWONoLock` (the repair of the defect recorded for C07) therefore widens such
a write to block boundaries with data read from the RW replicas, and both replicas receive the same
whole-block buffer. -/

/-- block-aligned writes keep two heads equal, whatever lies below them -/
theorem sameWrites_writeBlocks (bs : Nat) (a b : File β) (hw : SameWrites bs a b) (s n : Nat) (buf : Nat → β) :
    SameWrites bs (a.writeBlocks bs s n buf) (b.writeBlocks bs s n buf) := by
  refine ⟨fun blk => ?_, fun u hu => ?_⟩
  · show (if _ then true else a.alloc blk) = (if _ then true else b.alloc blk)
    rw [hw.1 blk]
  · have hu' : (if s ≤ u / bs ∧ u / bs < s + n then true else a.alloc (u / bs)) = true := hu
    show (if _ then buf u else a.data u) = (if _ then buf u else b.data u)
    by_cases c : s ≤ u / bs ∧ u / bs < s + n
    · rw [if_pos c, if_pos c]
    · rw [if_neg c] at hu'
      rw [if_neg c, if_neg c]
      exact hw.2 u hu'

/-- what the head of ANY replica (in particular the target, whose lower files are empty or stale)
    holds after the widened request: whole blocks written from the buffer, nothing read from below -/
theorem c07_target_head (t : DD β) (hbs : 0 < t.bs) (src : Nat → β) (off len : Nat) (buf : Nat → β) (hl : len ≠ 0) :
    (t.widenWrite src off len buf).files t.top =
      (t.files t.top).writeBlocks t.bs (wStart t.bs off / t.bs) ((wEnd t.bs off len - wStart t.bs off) / t.bs)
        (widenBuf src off len buf) := by
  rw [widenWrite_eq_fullWrite t hbs src off len buf hl]
  show (if t.top = t.top then _ else _) = _
  rw [if_pos rfl]

/-- one foreground request during the rebuild, as both replicas see it -/
def pairWrite (s t : DD β) (off len : Nat) (buf : Nat → β) : DD β × DD β :=
  (s.widenWrite s.live off len buf, t.widenWrite s.live off len buf)

/-- **C07 (writes during the rebuild).** Each foreground request — of any offset and length inside the
    volume — (1) has on the source exactly the effect of the request itself (`WriteOk`: the written
    units change, nothing else, invariant kept) and (2) leaves the two heads holding the same writes,
    no matter what the target's chain below its head contains. -/
theorem c07_pairWrite (s t : DD β) (hs : WF s) (hbs : t.bs = s.bs) (off len : Nat) (buf : Nat → β)
    (hr : off + len ≤ s.nb * s.bs)
    (hw : SameWrites s.bs (t.files t.top) (s.files s.top)) :
    WriteOk s (pairWrite s t off len buf).1 off len buf ∧
    SameWrites s.bs ((pairWrite s t off len buf).2.files t.top) ((pairWrite s t off len buf).1.files s.top) ∧
    (pairWrite s t off len buf).2.top = t.top ∧ (pairWrite s t off len buf).2.bs = t.bs := by
  have hpos := hs.bs_pos
  refine ⟨writeOk_widenWrite s hs off len buf hr, ?_⟩
  unfold pairWrite
  by_cases hl : len = 0
  · subst hl
    exact ⟨hw, rfl, rfl⟩
  · have ht : 0 < t.bs := hbs ▸ hpos
    have e := widenWrite_eq_fullWrite t ht s.live off len buf hl
    refine ⟨?_, by rw [e]; rfl, by rw [e]; rfl⟩
    rw [c07_target_head t ht s.live off len buf hl, c07_target_head s hpos s.live off len buf hl, hbs]
    exact sameWrites_writeBlocks s.bs _ _ hw _ _ _

/-- any number of foreground requests -/
def pairRun (s t : DD β) : List (Nat × Nat × (Nat → β)) → DD β × DD β
  | [] => (s, t)
  | (off, len, buf) :: ws => pairRun (pairWrite s t off len buf).1 (pairWrite s t off len buf).2 ws

def InVolAll (nb bs : Nat) : List (Nat × Nat × (Nat → β)) → Prop
  | [] => True
  | (off, len, _) :: ws => off + len ≤ nb * bs ∧ InVolAll nb bs ws

theorem c07_pairRun (ws : List (Nat × Nat × (Nat → β))) : ∀ (s t : DD β), WF s → t.bs = s.bs → t.top = s.top →
    InVolAll s.nb s.bs ws → SameWrites s.bs (t.files t.top) (s.files s.top) →
    WF (pairRun s t ws).1 ∧ (pairRun s t ws).1.bs = s.bs ∧ (pairRun s t ws).1.top = s.top ∧
    (pairRun s t ws).1.nb = s.nb ∧
    SameWrites s.bs ((pairRun s t ws).2.files s.top) ((pairRun s t ws).1.files s.top) := by
  induction ws with
  | nil => intro s t hs _ ht _ hw; rw [ht] at hw; exact ⟨hs, rfl, rfl, rfl, hw⟩
  | cons w ws ih =>
    obtain ⟨off, len, buf⟩ := w
    intro s t hs hbs htop hv hw
    obtain ⟨ok, sw, tt, tb⟩ := c07_pairWrite s t hs hbs off len buf hv.1 hw
    have := ih _ _ ok.wf (by rw [tb, ok.bs]; exact hbs) (by rw [tt, ok.top]; exact htop)
      (by rw [ok.nb, ok.bs]; exact hv.2) (by rw [ok.bs, tt, ok.top]; exact sw)
    rwa [ok.bs, ok.top, ok.nb] at this

/-- **C07 (end to end, replica part).** Source and target take the add-time snapshot (the target's
    new head is empty, the source's too), any sequence of foreground requests of any shape follows,
    the source's snapshot files are copied under the target's head and the target is reloaded and
    merged: every unit of the volume reads on the rebuilt replica exactly as on the source, which in
    turn holds exactly what the requests wrote. -/
theorem c07_rebuild (s t : DD β) (hs : WF s) (hbs : t.bs = s.bs) (htop : t.top = s.top)
    (hw : SameWrites s.bs (t.files t.top) (s.files s.top))
    (ws : List (Nat × Nat × (Nat → β))) (hv : InVolAll s.nb s.bs ws) (u : Nat)
    (hu : u / s.bs < s.nb) :
    (graft (pairRun s t ws).1 ((pairRun s t ws).2.files s.top)).lunmap.readUnit u = (pairRun s t ws).1.live u := by
  obtain ⟨wf, b, tp, hnb, sw⟩ := c07_pairRun ws s t hs hbs htop hv hw
  apply c07_reads_after_promotion _ wf
  · rw [b, tp]; exact sw
  · rw [b, hnb]; exact hu

/-! ### a replica that rejoins with its old directory

Only the snapshots above the rejoining replica's checkpoint are transferred
(`sync.isRevisionCountAndChainSame`); the checkpoint and everything below it stay the replica's own
files.  That is sound exactly as far as the checkpoint's image is the same on both replicas (what the
controller established when it recorded the checkpoint, C13): -/

/-- if the two chains show the same image at the checkpoint `k` and have the same files above it, they
    show the same image at every member from `k` upwards — whatever the files at and below `k` look
    like on either side (the source may have merged snapshots there since) -/
theorem c07_rejoin_above_checkpoint (sf tf : Nat → File β) (bs k : Nat)
    (hk : ∀ u, viewUpTo tf bs k u = viewUpTo sf bs k u) (habove : ∀ j, k < j → tf j = sf j) :
    ∀ i, k ≤ i → ∀ u, viewUpTo tf bs i u = viewUpTo sf bs i u :=
  fun i hi u => viewUpTo_eq_above tf sf bs k u (hk u) habove i hi

private def srcDemo : DD Nat := ((DD.init 8 2).write 0 8 (fun u => 7 + u)).snapshot false
private def tgtDemo : DD Nat := (DD.init 8 2).snapshot false

/-- the two fresh heads after the add-time snapshot hold the same (no) writes -/
example : SameWrites 8 (tgtDemo.files tgtDemo.top) (srcDemo.files srcDemo.top) :=
  ⟨fun _ => rfl, fun _ h => by simp [tgtDemo, DD.snapshot, DD.init, File.empty] at h⟩

/-- **the defect.** Without the widening, a one-unit write makes the target assemble the block from
    its own (empty) chain: its head then holds 0 where the source's head holds the old data, the two
    heads differ on an allocated block, and after the reload that block hides the synced data. -/
theorem c07_unwidened_differs :
    ((tgtDemo.write 2 1 (fun _ => 99)).files 2).alloc 0 = true ∧
    ((tgtDemo.write 2 1 (fun _ => 99)).files 2).data 0 = 0 ∧
    ((srcDemo.write 2 1 (fun _ => 99)).files 2).data 0 = 7 := by decide +kernel

/-- with the widening the same request leaves both heads with the source's data around the unit -/
example : ((pairWrite srcDemo tgtDemo 2 1 (fun _ => 99)).2.files 2).data 0 = 7 ∧
          ((pairWrite srcDemo tgtDemo 2 1 (fun _ => 99)).2.files 2).data 2 = 99 ∧
          ((pairWrite srcDemo tgtDemo 2 1 (fun _ => 99)).1.files 2).data 0 = 7 := by decide +kernel

end Jiva.Properties
