import JivaVerif.Lemmas.Rep
import JivaVerif.Lemmas.Reopen
/-!
# C12 — the snapshot chain stays a well-formed path and survives reopen unchanged

The model keeps the chain as the list `names` (snapshot names base-first; the head is
`volume-head-NNN.img`), aligned with the file indices `1 … top-1` of the differencing disk, and the
per-member attributes `uc` / `rm`.  The model has one copy of the metadata: that the on-disk `*.meta`
files and the in-memory tables stay equal is what the correspondence runs check (profile "mgmt":
chain, attributes and data after every request and after a reopen).
-/
namespace Jiva.Properties
open Jiva

/-- the chain is a simple path: distinct names, one per snapshot file -/
def ChainWF (r : Rep) : Prop := r.names.Nodup ∧ r.names.length + 1 = r.dd.top

theorem indexOf_zero_not_mem (r : Rep) (n : String) (h : r.indexOf n = 0) : n ∉ r.names := by
  unfold Rep.indexOf at h
  cases hi : r.names.idxOf? n with
  | none => exact List.idxOf?_eq_none_iff.mp hi
  | some i => rw [hi] at h; exact absurd h (Nat.succ_ne_zero i)

theorem chainwf_init (bs nb : Nat) : ChainWF (Rep.init bs nb) := by
  simp [ChainWF, Rep.init, DD.init]

/-- **C12 (snapshot).** A snapshot with a fresh name extends the path by one member; a name that is
    already in the chain is refused and nothing changes (this needed the fix 03437ae). -/
theorem c12_snapshot (r : Rep) (h : ChainWF r) (n : String) (u : Bool) : ChainWF (r.step (.snap n u)).1 := by
  rcases Rep.step_snap_cases r n u with ⟨_, o, e⟩ | ⟨h0, _, e⟩
  · rw [e]; exact h
  · rw [e]
    exact ⟨(List.nodup_cons.mpr ⟨indexOf_zero_not_mem r n h0, h.1⟩).perm (List.perm_append_singleton n r.names).symm,
      by show (r.names ++ [n]).length + 1 = r.dd.top + 1; rw [List.length_append, ← h.2]; rfl⟩

/-- **C12 (chain limit).** A snapshot is accepted only while the chain it produces still passes the
    length check of the next open, so the hypothesis of `c12_reopen` holds in every reachable state
    whose limit was not lowered (the two expressions are tied to the source by `Tie.chainLimit`). -/
theorem c12_snapshot_keeps_openable (r : Rep) (n : String) (u : Bool) (hl : r.dd.top ≤ r.chainLimit) :
    (r.step (.snap n u)).1.dd.top ≤ (r.step (.snap n u)).1.chainLimit := by
  rcases Rep.step_snap_cases r n u with ⟨_, o, e⟩ | ⟨_, h2, e⟩
  · rw [e]; exact hl
  · rw [e]; show r.dd.top + 1 ≤ r.chainLimit; omega

theorem c12_snapshot_dup_refused (r : Rep) (n : String) (ho : r.isOpen = true) (hn : r.indexOf n ≠ 0) (u : Bool) :
    r.step (.snap n u) = (r, .refused) := by
  simp only [Rep.step, ho, Bool.not_true, Bool.false_eq_true, if_pos hn, ite_self]

/-- **C12 (reopen).** Close + open, reload and plain observation requests change neither the chain
    nor any member's attributes nor any member's content. -/
theorem c12_reopen (r : Rep) (p : Bool) (hl : r.dd.top ≤ r.chainLimit) :
    (r.step (.reopen p)).1.names = r.names ∧ (r.step (.reopen p)).1.dd.uc = r.dd.uc ∧
    (r.step (.reopen p)).1.dd.rm = r.dd.rm ∧ (r.step (.reopen p)).1.dd.top = r.dd.top ∧
    (r.step (.reopen p)).1.rev = r.rev ∧ (r.step (.reopen p)).1.ckpt = r.ckpt ∧
    (r.step (.reopen p)).1.dd.nb = r.dd.nb ∧
    ∀ i u, (r.step (.reopen p)).1.dd.view i u = r.dd.view i u := by
  generalize e : r.step (.reopen p) = x
  simp only [Rep.step] at e
  by_cases h : (!r.isOpen) = true
  · rw [if_pos h] at e; subst e; exact ⟨rfl, rfl, rfl, rfl, rfl, rfl, rfl, fun _ _ => rfl⟩
  · rw [if_neg h, if_neg (Nat.not_lt.mpr hl)] at e; subst e
    refine ⟨rfl, ?_, ?_, DD.reopen_top r.dd p, rfl, rfl, ?_, fun i u => DD.view_reopen r.dd p i u⟩
    · show (r.dd.reopen p).uc = r.dd.uc; rw [DD.reopen_eq]
    · show (r.dd.reopen p).rm = r.dd.rm; rw [DD.reopen_eq]
    · show (r.dd.reopen p).nb = r.dd.nb; rw [DD.reopen_eq]

/-- **C12 (refused requests change nothing).** Every management request on a closed replica, and
    the RW-only ones on a replica that is not RW, are refused with the state untouched. -/
theorem c12_refused_noop (r : Rep) (n : String) (k : Nat) :
    (r.isOpen = false →
      r.step (.snap n true) = (r, .refused) ∧ r.step (.mark n) = (r, .refused) ∧ r.step (.rm n) = (r, .refused) ∧
      r.step (.revert n) = (r, .refused) ∧ r.step (.resize k) = (r, .refused) ∧ r.step (.setCkpt n) = (r, .refused) ∧
      r.step (.setRev k) = (r, .refused)) ∧
    (r.mode ≠ .rw →
      r.step (.mark n) = (r, .refused) ∧ r.step (.rm n) = (r, .refused) ∧ r.step (.setRev k) = (r, .refused)) := by
  constructor
  · intro h; unfold Rep.step; simp [h]
  · intro h; unfold Rep.step; simp [h]

theorem c12_unknown_revert_refused (r : Rep) (n : String) (h : r.indexOf n = 0) :
    r.step (.revert n) = (r, .refused) := by
  unfold Rep.step; simp [h]

example : ChainWF ((Rep.init 8 4).run [.setMode .rw, .snap "a" true, .snap "b" false, .snap "a" true, .reopen true]) := by
  unfold ChainWF; decide +kernel

end Jiva.Properties
