import JivaVerif.Properties.C10Cluster
import JivaVerif.Properties.Controller
/-!
# C09 — "a volume whose replicas all stopped and came back serves every acknowledged write again"

Over the whole-volume model (`Model/Cluster.lean`), for ANY history in which every stop happens in good
health — a quorum of replicas RW and not marked as rebuilding (`c09_restart_serves_acked`).  The
hypothesis is needed, and the code does lose acknowledged writes without it
(`c09_unhealthy_stop_loses_ack`, replayed on the real controller by `clusterdiff`; DESIGN.md §6).
-/
namespace Jiva.Cluster
open Jiva Sys

theorem countP_overlap {α : Type} (p q : α → Bool) : ∀ (l : List α),
    l.countP p + l.countP q > l.length → ∃ x ∈ l, p x = true ∧ q x = true
  | [] => by simp
  | x :: xs => by
    intro h
    by_cases hx : p x = true ∧ q x = true
    · exact ⟨x, List.mem_cons_self, hx⟩
    · -- `x` is counted at most once, so the two counts still exceed the length of the rest
      have hxs : xs.countP p + xs.countP q > xs.length := by
        rw [List.countP_cons, List.countP_cons, List.length_cons] at h
        by_cases hp : p x = true
        · rw [if_pos hp, if_neg fun hq => hx ⟨hp, hq⟩] at h; omega
        · rw [if_neg hp] at h; split at h <;> omega
      obtain ⟨y, hy, hpq⟩ := countP_overlap p q xs hxs
      exact ⟨y, List.mem_cons_of_mem _ hy, hpq⟩

/-- a replica directory that holds everything and may be elected -/
def holder (s : Sys) (i : Nat) : Bool := !(s.node i).rebuilding && decide ((s.node i).log = s.stream)

theorem holder_iff (s : Sys) (i : Nat) :
    holder s i = true ↔ (s.node i).rebuilding = false ∧ (s.node i).log = s.stream := by
  unfold holder; simp

/-- `Inv0` and what holds in addition when every stop happens in good health -/
structure Inv (s : Sys) : Prop extends Inv0 s where
  size  : s.n ≤ s.rf   -- with it two quorums overlap
  pfx   : ∀ i, (s.node i).rebuilding = false → (s.node i).log <+: s.stream   -- a directory not being rebuilt holds a prefix
  acked : ∀ w ∈ s.acked, w ∈ s.stream
  hold  : s.up = false → s.quorum ≤ s.idx.countP (holder s)   -- while the volume is down a quorum holds everything

theorem inv_init (rf n : Nat) (h1 : n ≤ rf) (h2 : rf / 2 + 1 ≤ n) : Inv (init rf n) := by
  refine ⟨inv0_init rf n, h1, fun _ _ => List.prefix_refl _, fun _ h => (by cases h), fun _ => ?_⟩
  rw [(List.countP_eq_length (p := holder (init rf n))).mpr fun _ _ => rfl]
  exact Nat.le_trans h2 (Nat.le_of_eq List.length_range.symm)

theorem inv_setNode (s : Sys) (h : Inv s) (i : Nat) (nd : Node) (h0 : Inv0 (s.setNode i nd))
    (hp : nd.rebuilding = false → nd.log <+: s.stream)
    (hd : s.up = true ∨ nd.rebuilding = (s.node i).rebuilding ∧ nd.log = (s.node i).log) : Inv (s.setNode i nd) := by
  refine ⟨h0, h.size, fun j => ?_, h.acked, fun hu => Nat.le_trans (h.hold hu) (Nat.le_of_eq (List.countP_congr fun j _ => ?_))⟩
  · rw [node_setNode]; split
    · exact hp
    · exact h.pfx j
  · obtain ⟨e1, e2⟩ := hd.resolve_left (ne_true_of_eq_false hu)
    unfold holder
    rw [node_setNode_proj Node.rebuilding s i nd e1, node_setNode_proj Node.log s i nd e2]; rfl

theorem mem_regs (s : Sys) (j : Nat) (hj : j < s.n) (hr : (s.node j).registered = true) :
    (⟨toString j, "u", (s.node j).rev, (s.node j).rebuilding⟩ : Reg) ∈ s.regs := by
  unfold regs idx
  exact List.mem_map.mpr ⟨j, List.mem_filter.mpr ⟨List.mem_range.mpr hj, hr⟩, rfl⟩

theorem legalLeader_spec (s : Sys) (i e : Nat) (hi : (s.node i).rebuilding = false)
    (hl : s.legalLeader (s.candidate i) e = true) :
    ∀ j, j < s.n → (s.node j).registered = true → (s.node j).rebuilding = false →
      (s.node e).rebuilding = false ∧ (s.node j).rev ≤ (s.node e).rev := by
  intro j hjn hjr hjb
  refine ⟨legalLeader_not_rebuilding s i e hi hl, ?_⟩
  have hjle := Jiva.Properties.maxRevCount_ge s.regs (s.node (s.candidate i)).rev _ (mem_regs s j hjn hjr) hjb
  unfold legalLeader at hl
  dsimp only at hl
  split at hl
  · rename_i hm; rw [of_decide_eq_true hl, ← hm]; exact hjle
  · simp only [Bool.and_eq_true, decide_eq_true_eq] at hl
    rw [hl.2]; exact hjle

/-- the election: a majority has registered and a quorum holds everything, so some registered replica `j` does;
    the elected replica counts at least as many writes and holds a prefix, so it holds everything too -/
theorem elected_holds_stream (s : Sys) (h : Inv s) (hd : s.up = false) (hmaj : s.quorum ≤ s.regCount) (i e : Nat)
    (hreb : (s.node i).rebuilding = false) (hleg : s.legalLeader (s.candidate i) e = true) :
    (s.node e).log = s.stream := by
  have hq : s.quorum + s.quorum > s.idx.length := by
    have := h.size
    unfold Sys.quorum Sys.idx; rw [List.length_range]; omega
  obtain ⟨j, hj, hjh, hjr⟩ := countP_overlap (holder s) (fun k => (s.node k).registered) s.idx
    (Nat.lt_of_lt_of_le hq (Nat.add_le_add (h.hold hd) hmaj))
  obtain ⟨hjb, hjl⟩ := (holder_iff s j).mp hjh
  obtain ⟨heb, hle⟩ := legalLeader_spec s i e hreb hleg j (List.mem_range.mp hj) hjr hjb
  apply (h.pfx e heb).eq_of_length_le
  rw [← h.cnt e heb, ← hjl, ← h.cnt j hjb]; exact hle

theorem inv_start (s : Sys) (h : Inv s) (e : Nat) (hlog : (s.node e).log = s.stream) (h0 : Inv0 (s.start e)) :
    Inv (s.start e) := by
  have hst : (s.start e).stream = s.stream := hlog
  refine ⟨h0, h.size, fun j => ?_, fun w hw => hst ▸ h.acked w hw, fun hu => by cases hu⟩
  rw [hst, node_start]; split
  · exact h.pfx e
  · exact h.pfx j

/-- `Inv0` of the new state is `inv0_step`'s; each case adds the four fields of `Inv`.  Only `stop` uses `hh`. -/
theorem inv_step (s : Sys) (h : Inv s) (op : Op) (hh : op = .stop → s.healthy = true) : Inv (s.step op).1 := by
  refine step_ind (P := fun op x => (op = .stop → s.healthy = true) → Inv0 x.1 → Inv x.1) s op (fun _ _ _ _ => h)
    (reg := fun i e hd _ => ?_)
    (write := fun f a ok hup _ _ h0 => ⟨h0, h.size, fun i hr => ?_, fun w hw => mem_append_of_mem_ite_append h.acked hw,
      fun hu => absurd hup (ne_true_of_eq_false hu)⟩)
    (add := fun i hup _ _ _ _ _ _ h0 => inv_setNode s h i _ h0 (h.pfx i) (.inl hup))
    (setrb := fun i hup _ _ _ h0 => inv_setNode s h i _ h0 (fun hr => by cases hr) (.inl hup))
    (promote := fun i src hup _ _ _ hsrc _ h0 =>
      inv_setNode s h i _ h0 (fun _ => (h.rw src hsrc).1 ▸ List.prefix_refl _) (.inl hup))
    (rbdone := fun i _ hi _ _ h0 =>
      inv_setNode s h i _ h0 (fun _ => (h.rw i hi).1 ▸ List.prefix_refl _) (.inl (h.toInv0.up_of_rw hi)))
    (remove := fun i hup _ _ _ h0 => inv_setNode s h i _ h0 (h.pfx i) (.inl hup))
    (snap := fun hup _ _ h0 => ⟨h0, h.size, h.pfx, h.acked, fun hu => absurd hup (ne_true_of_eq_false hu)⟩)
    (stop := fun hh h0 => ⟨h0, h.size, h.pfx, h.acked, fun _ =>
      Nat.le_trans (of_decide_eq_true (hh rfl)) (List.countP_mono_left fun i _ hp => ?_)⟩)
    hh (inv0_step s h.toInv0 op)
  · intro s1
    have h1 : Inv s1 := inv_setNode s h i _ (inv0_register s h.toInv0 i hd) (h.pfx i) (.inr ⟨rfl, rfl⟩)
    have h2 : Inv { s1 with maxRev := some e } :=   -- no field reads `maxRev`
      ⟨h1.toInv0.congr rfl rfl rfl rfl, h1.size, h1.pfx, h1.acked, h1.hold⟩
    exact ⟨fun _ _ _ => h1, fun hreb hleg => ⟨fun _ _ => h2, fun hmaj _ h0 =>
      inv_start _ h2 e (elected_holds_stream s1 h1 hd hmaj i e hreb hleg) h0⟩⟩
  · rw [writeNode_rebuilding] at hr
    show (s.writeNode f a i).log <+: s.stream ++ [s.next]
    rw [writeNode_log]; split
    · rename_i hc; rw [(h.rw i hc.1).1]; exact List.prefix_refl _
    · exact (h.pfx i hr).trans (List.prefix_append _ _)
  · -- the replicas that are RW and not rebuilding when the volume stops hold everything (`Inv0.rw`)
    have hp' : (s.node i).att = .rw ∧ (s.node i).rebuilding = false := by simpa using hp
    exact (holder_iff _ i).mpr ⟨hp'.2, (h.rw i hp'.1).1⟩

theorem inv_run (ops : List Op) : ∀ (s : Sys), Inv s → s.healthyRun ops = true → Inv (s.run ops) := by
  induction ops with
  | nil => exact fun _ h _ => h
  | cons op ops ih =>
    intro s h hh
    obtain ⟨h1, h2⟩ := (healthyRun_cons s op ops).mp hh
    exact ih _ (inv_step s h op h1) h2

/-- **C09 (a volume whose replicas all stopped and came back serves every acknowledged write
    again).**  `rf` configured replicas (any `rf ≥ 1`; `n` directories with `rf / 2 + 1 ≤ n ≤ rf`), ANY
    history of registrations, writes failing on any replicas, additions, promotions, removals, stops
    and restarts in which every stop finds a quorum of replicas RW and not marked as rebuilding.
    Then, whatever majority registers first after a restart and whichever replica the election ends
    on: every replica that is RW — the replicas reads are served from — holds every write that was
    ever acknowledged, in this epoch or an earlier one. -/
theorem c09_restart_serves_acked (rf n : Nat) (h1 : n ≤ rf) (h2 : rf / 2 + 1 ≤ n) (ops : List Op)
    (hh : (init rf n).healthyRun ops = true) :
    let s := (init rf n).run ops
    ∀ i, (s.node i).att = .rw → ∀ w ∈ s.acked, w ∈ (s.node i).log := by
  intro s i hi w hw
  have hinv := inv_run ops (init rf n) (inv_init rf n h1 h2) hh
  rw [(hinv.rw i hi).1]
  exact hinv.acked w hw

/-- the same for the replica an election ends on: it holds everything that was acknowledged before
    the stop (`Out.leader e` is the answer of the registration that completed the majority) -/
theorem c09_elected_holds_acked (rf n : Nat) (h1 : n ≤ rf) (h2 : rf / 2 + 1 ≤ n) (ops : List Op)
    (hh : (init rf n).healthyRun ops = true) (i e : Nat)
    (hl : (((init rf n).run ops).stepReg i e).2 = .leader e) :
    ∀ w ∈ ((init rf n).run ops).acked, w ∈ (((init rf n).run ops).node e).log := by
  intro w hw
  have hs := inv_run ops _ (inv_init rf n h1 h2) hh
  generalize (init rf n).run ops = s at hs hl hw ⊢
  have hinv : Inv (s.stepReg i e).1 := inv_step s hs (.reg i e) (fun hc => by cases hc)
  obtain ⟨hrw, hlog, hack⟩ := stepReg_leader s i e hl
  rw [← hlog, (hinv.rw e hrw).1]
  exact hinv.acked w (hack.symm ▸ hw)

/-- **the hypothesis is needed** (a test, and the history `clusterdiff` replays on the real
    controller): RF 3.  Replicas 0 and 1 are RW, replica 2 is being rebuilt; a write fails on replica
    1 and is acknowledged — replicas 0 and 2 took it, a majority of the three attached — and replica
    1 is detached.  Everything stops (one RW replica: not in good health).  Replicas 2 and 1 register
    first: that is a majority, replica 2 is rebuilding, replica 1 is elected, starts the volume, and
    the acknowledged write is gone. -/
theorem c09_unhealthy_stop_loses_ack :
    let ops : List Op := [.reg 0 0, .reg 1 0, .add 1, .setrb 1, .promote 1 0, .rbdone 1, .add 2, .setrb 2,
                          .write [1] [], .stop, .reg 2 0, .reg 1 1]
    let s := (init 3 3).run ops
    (init 3 3).healthyRun ops = false ∧ s.acked = [0] ∧ (s.node 1).att = .rw ∧ (s.node 1).log = [] ∧ s.stream = [] := by
  decide +kernel

/-- non-vacuity (a test): the same beginning with a stop in good health — the write is acknowledged
    by replicas 0 and 1, replica 2 (stale) and replica 1 register first, and replica 1 is elected and
    holds the write -/
example :
    let ops : List Op := [.reg 0 0, .reg 1 0, .add 1, .setrb 1, .promote 1 0, .rbdone 1, .write [] [],
                          .stop, .reg 2 2, .reg 1 1]
    let s := (init 3 3).run ops
    (init 3 3).healthyRun ops = true ∧ s.acked = [0] ∧ (s.node 1).att = .rw ∧ (s.node 1).log = [0] ∧
    (s.node 2).log = [] := by
  decide +kernel

/-- a stop between the attachment of a WO replica and its `SetRebuilding(true)` (a test): replica 2,
    stale, is attached WO and takes write 1 uncounted; everything stops in good health; 2 and 0
    register — 2 is not marked rebuilding, but its counter is lower and 0 is elected -/
example :
    let ops : List Op := [.reg 0 0, .reg 1 0, .add 1, .setrb 1, .promote 1 0, .rbdone 1, .write [] [], .add 2,
                          .write [] [], .stop, .reg 2 2, .reg 0 0]
    let s := (init 3 3).run ops
    (init 3 3).healthyRun ops = true ∧ s.acked = [0, 1] ∧ (s.node 0).att = .rw ∧ (s.node 0).log = [0, 1] ∧
    (s.node 2).rebuilding = false := by
  decide +kernel

end Jiva.Cluster
