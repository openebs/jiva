import JivaVerif.Lemmas.Crash
/-!
# C08 — the replica directory is crash-consistent at every instant (process death)

For the chain-changing operations the metadata protocol is modelled as the sequence of file-system
calls the code issues (`Model/Crash.lean`; the sequences are compared with `strace` traces of the
real operations by `crashdiff`).  The theorems say: whatever prefix of that sequence has been
executed when the process dies, the directory opens, and the chain `construct` finds is either the
one before or the one after the operation, every member keeping its inode (its data).

Not covered here: a single failing call (`Properties/C08Fail.lean`), the data path
(`Properties/C08Data.lean`); the revision-counter block and the attributes the model leaves out are
enumerated by `crashdiff` (DESIGN §5 C08); power-loss reordering is out of scope.
-/
namespace Jiva.Crash

theorem recovers_untouched (fs : FS) (c : List (String × Nat)) (cs : List Call) (h : Recovers fs c)
    (hu : ∀ call ∈ cs, ∀ k ∈ touched call, ¬ Uses c k) : Recovers (run fs cs) c :=
  recovers_congr fs _ c h fun k hk => get_run_within (P := (¬ Uses c ·)) fs k hu (not_not_intro hk)

theorem encode_effect (fs : FS) (tmp dst : Key) (e : Ent) :
    get (run fs (encode tmp dst e)) dst = some e ∧
    ∀ k, k ≠ tmp → k ≠ dst → get (run fs (encode tmp dst e)) k = get fs k :=
  ⟨by rw [get_run_encode, if_pos rfl], fun k h1 h2 => by rw [get_run_encode, if_neg h2, if_neg h1]⟩

/-- **C08 (single metadata update).** Every other metadata change (size, checkpoint, rebuilding flag,
    clone status, a disk's attributes) is one `encodeToFile`: whatever prefix of it was executed, the
    target file holds its old or its new content — never a partial one — and no other file except the
    temp file is changed. -/
theorem c08_single_update (fs : FS) (tmp dst : Key) (e : Ent) (hne : tmp ≠ dst) (n : Nat) :
    (get (run fs ((encode tmp dst e).take n)) dst = get fs dst ∨
     get (run fs ((encode tmp dst e).take n)) dst = some e) ∧
    ∀ k, k ≠ tmp → k ≠ dst → get (run fs ((encode tmp dst e).take n)) k = get fs k := by
  rcases get_run_encode_take fs tmp dst e n with h | h
  · exact ⟨.inl (h dst hne.symm), fun k h1 _ => h k h1⟩
  · exact ⟨.inr ((h dst hne.symm).trans (encode_effect fs tmp dst e).1),
      fun k h1 h2 => (h k h1).trans ((encode_effect fs tmp dst e).2 k h1 h2)⟩

theorem snapshot_fresh {oldHead newHead snap : String} {i0 : Nat} {rest : List (String × Nat)}
    (hn1 : newHead ≠ oldHead) (hn2 : snap ≠ oldHead) (hf1 : ∀ x ∈ rest, x.1 ≠ newHead ∧ x.1 ≠ snap) :
    ∀ x ∈ (oldHead, i0) :: rest, x.1 ∉ [newHead, snap] :=
  List.forall_mem_cons.mpr ⟨by simp [hn1.symm, hn2.symm], fun x hx => by simpa using hf1 x hx⟩

/-- Taking a snapshot, with the commit point: call 17 (counting from 0, as `flow` does), the rename of `volume.meta`. -/
theorem c08_snapshot_split (fs : FS) (oldHead newHead snap oldParent : String) (i0 newIno : Nat)
    (rest : List (String × Nat))
    (hrec : Recovers fs ((oldHead, i0) :: rest))
    (_hpar : get fs (.dmeta oldHead) = some (.disk oldParent))
    (_hvol : get fs .vol = some (.volume oldHead))
    (hrest : oldParent = "" ∧ rest = [] ∨ oldParent ≠ "" ∧ IsChain fs oldParent rest)
    (hn1 : newHead ≠ oldHead) (hn2 : snap ≠ oldHead) (hn3 : snap ≠ newHead) (hn4 : snap ≠ "")
    (hf1 : ∀ x ∈ rest, x.1 ≠ newHead ∧ x.1 ≠ snap) (hf2 : ∀ x ∈ rest, x.1 ≠ oldHead)
    (ha1 : get fs (.img newHead) = none) (ha3 : get fs (.img snap) = none)
    (n : Nat) :
    (n ≤ 17 → Recovers (run fs ((snapshotProg oldHead newHead snap oldParent newIno).take n)) ((oldHead, i0) :: rest)) ∧
    (17 < n → Recovers (run fs ((snapshotProg oldHead newHead snap oldParent newIno).take n))
      ((newHead, newIno) :: (snap, i0) :: rest)) := by
  let A : List Call := [.fsyncDir, .create (.img newHead) (.data newIno), .create (.img newHead) (.data newIno), .truncate (.img newHead)]
  let B := encode (.dmetaTmp newHead) (.dmeta newHead) (.disk snap)
  let C : List Call := [.link (.img oldHead) (.img snap), .link (.dmeta oldHead) (.dmeta snap), .fsyncDir]
  let D := encode (.dmetaTmp snap) (.dmeta snap) (.disk oldParent)
  let V := encode .volTmp .vol (.volume newHead)
  have eP : snapshotProg oldHead newHead snap oldParent newIno = A ++ B ++ C ++ D ++ V ++ rmDisk oldHead := rfl
  -- before the rewrite of `volume.meta` only files of the two new disks are written, after it the old head's go
  have wpre : Within (Scratch [newHead, snap]) (A ++ B ++ C ++ D) := by simp [A, B, C, D, touched, Scratch]
  have wpost : Within (Scratch [oldHead]) (rmDisk oldHead) := by simp [Scratch]
  have fresh := snapshot_fresh (i0 := i0) hn1 hn2 hf1
  have fresh' : ∀ x ∈ (newHead, newIno) :: (snap, i0) :: rest, x.1 ∉ [oldHead] :=
    List.forall_mem_cons.mpr ⟨by simp [hn1], List.forall_mem_cons.mpr ⟨by simp [hn2], fun x hx => by simpa using hf2 x hx⟩⟩
  -- the new chain before that rewrite, entry by entry: `simp` evaluates the calls with the `get_apply_*` equations
  have hnew : Recovers (run fs (A ++ B ++ C ++ D ++ V)) ((newHead, newIno) :: (snap, i0) :: rest) := by
    have hirec : get fs (.img oldHead) = some (.data i0) := hrec.elim fun _ h => isChain_img h.2 _ List.mem_cons_self
    let S := run fs (A ++ B ++ C ++ D)
    have g1 : get S (.img newHead) = some (.data newIno) := by simp [S, A, B, C, D, ha1, hn3.symm]
    have g2 : get S (.dmeta newHead) = some (.disk snap) := by simp [S, B, C, D, hn3.symm]
    have g3 : get S (.img snap) = some (.data i0) := by simp [S, A, B, C, D, ha3, hirec, hn1.symm, hn3]
    have g4 : get S (.dmeta snap) = some (.disk oldParent) := by simp [S, D]
    rw [run_append]
    refine recovers_encode_vol (.step newHead snap newIno _ g1 g2 hn4 ?_)
    rcases hrest with ⟨rfl, rfl⟩ | ⟨hp, hr⟩
    · exact .base snap i0 g3 g4
    · exact .step snap oldParent i0 rest g3 g4 hp (isChain_scratch hr (fun x hx => fresh x (List.mem_cons_of_mem _ hx)) wpre)
  -- the rename inside `V` comes after `A ++ B ++ C ++ D` and the two calls of `stage`
  rw [eP, show 17 = (A ++ B ++ C ++ D).length + 2 from rfl]
  exact recovers_commit_encode fs (A ++ B ++ C ++ D) (rmDisk oldHead) .volTmp .vol (.volume newHead) _ _ hrec
    (keeps_scratch fs wpre fresh) (by simp [Uses]) hnew (keeps_scratch _ wpost fresh') n

/-- **C08 (snapshot).** Taking a snapshot: whatever prefix of the call sequence of `createDisk` was
    executed when the process died, the directory opens with the chain before the operation or with
    the chain after it (new head on top, the old head's inode under the snapshot's name). -/
theorem c08_snapshot (fs : FS) (oldHead newHead snap oldParent : String) (i0 newIno : Nat)
    (rest : List (String × Nat))
    (hrec : Recovers fs ((oldHead, i0) :: rest))
    (hpar : get fs (.dmeta oldHead) = some (.disk oldParent))
    (hvol : get fs .vol = some (.volume oldHead))
    (hrest : oldParent = "" ∧ rest = [] ∨ oldParent ≠ "" ∧ IsChain fs oldParent rest)
    (hn1 : newHead ≠ oldHead) (hn2 : snap ≠ oldHead) (hn3 : snap ≠ newHead) (hn4 : snap ≠ "")
    (hf1 : ∀ x ∈ rest, x.1 ≠ newHead ∧ x.1 ≠ snap) (hf2 : ∀ x ∈ rest, x.1 ≠ oldHead)
    (ha1 : get fs (.img newHead) = none) (ha3 : get fs (.img snap) = none)
    (n : Nat) :
    Recovers (run fs ((snapshotProg oldHead newHead snap oldParent newIno).take n)) ((oldHead, i0) :: rest) ∨
    Recovers (run fs ((snapshotProg oldHead newHead snap oldParent newIno).take n))
      ((newHead, newIno) :: (snap, i0) :: rest) :=
  or_of_split (c08_snapshot_split fs oldHead newHead snap oldParent i0 newIno rest hrec hpar hvol hrest hn1 hn2 hn3 hn4 hf1 hf2 ha1 ha3 n)

/-- Removing a chain member, with the commit point: call 2 (counting from 0), the rename of the child's metadata. -/
theorem c08_remove_split (fs : FS) (h name child parent grand : String) (ic i ip : Nat)
    (top below : List (String × Nat))
    (hvol : get fs .vol = some (.volume h))
    (hold : IsChain fs h (top ++ (child, ic) :: (name, i) :: (parent, ip) :: below))
    (hgrand : get fs (.dmeta parent) = some (.disk grand))
    (hd1 : child ≠ name) (hd2 : child ≠ parent) (hd3 : name ≠ parent) (hp : parent ≠ "")
    (hdt : ∀ x ∈ top, x.1 ≠ child ∧ x.1 ≠ name ∧ x.1 ≠ parent)
    (hdb : ∀ x ∈ below, x.1 ≠ child ∧ x.1 ≠ name ∧ x.1 ≠ parent)
    (n : Nat) :
    (n ≤ 2 → Recovers (run fs ((removeProg name child parent grand).take n))
      (top ++ (child, ic) :: (name, i) :: (parent, ip) :: below)) ∧
    (2 < n → Recovers (run fs ((removeProg name child parent grand).take n))
      (top ++ (child, ic) :: (parent, ip) :: below)) := by
  let C := encode (.dmetaTmp child) (.dmeta child) (.disk parent)
  let V := encode (.dmetaTmp parent) (.dmeta parent) (.disk grand)
  have eP : removeProg name child parent grand = [] ++ C ++ (V ++ rmDisk name) := rfl
  -- the commit is the rewrite of the child's metadata: it writes no file of another disk
  have wC : Within (Scratch [child]) C := by simp [C, Scratch]
  have wR : Within (Scratch [name]) (rmDisk name) := by simp [Scratch]
  have others : ∀ x ∈ top ++ (parent, ip) :: below, x.1 ∉ [child] :=
    List.forall_mem_append.mpr ⟨fun x hx => by simpa using (hdt x hx).1,
      List.forall_mem_cons.mpr ⟨by simpa using hd2.symm, fun x hx => by simpa using (hdb x hx).1⟩⟩
  have fresh' : ∀ x ∈ top ++ (child, ic) :: (parent, ip) :: below, x.1 ∉ [name] :=
    List.forall_mem_append.mpr ⟨fun x hx => by simpa using (hdt x hx).2.1, List.forall_mem_cons.mpr ⟨by simpa using hd1,
      List.forall_mem_cons.mpr ⟨by simpa using hd3.symm, fun x hx => by simpa using (hdb x hx).2.1⟩⟩⟩
  have hsub := isChain_suffix fs top h (child, ic) _ hold
  have hnew : IsChain (run fs C) h (top ++ (child, ic) :: (parent, ip) :: below) := by
    refine isChain_replace fs _ top h (child, ic) _ _ hold (.step child parent ic _ ?_ (by simp [C]) hp ?_) fun x hx => ?_
    · exact (by simp [C] : get (run fs C) (.img child) = get fs (.img child)).trans (isChain_img hsub _ List.mem_cons_self)
    · exact isChain_scratch (isChain_tail (isChain_tail hsub)) (fun x hx => others x (List.mem_append_right _ hx)) wC
    · have := others x (List.mem_append_left _ hx)
      exact ⟨get_run_within fs _ wC this, get_run_within fs _ wC this⟩
  -- nothing comes before the rename inside `C` but the two calls of its `stage`
  rw [eP]
  refine recovers_commit_encode fs [] (V ++ rmDisk name) _ _ _ _ _ ⟨h, hvol, hold⟩ (.nil _ _) (by simp [Uses])
    ⟨h, (get_run_within fs .vol wC id).trans hvol, hnew⟩ ?_ n
  -- the parent's metadata is rewritten with the pointer it has; then the member's files go
  refine (keeps_encode_same _ _ _ _ ?_ (by simp [Uses])).append (keeps_scratch _ wR fresh')
  exact (get_run_within fs (.dmeta parent) wC (others (parent, ip) (List.mem_append_right _ List.mem_cons_self))).trans hgrand

/-- **C08 (removal).** Removing the chain member `name` (child `child`, parent `parent`): whatever
    prefix of the call sequence of `removeDiskNode` / `rmDisk` was executed, the directory opens with
    the chain before or with the chain without `name`; every other member keeps its inode. -/
theorem c08_remove (fs : FS) (h name child parent grand : String) (ic i ip : Nat)
    (top below : List (String × Nat))
    (hvol : get fs .vol = some (.volume h))
    (hold : IsChain fs h (top ++ (child, ic) :: (name, i) :: (parent, ip) :: below))
    (hgrand : get fs (.dmeta parent) = some (.disk grand))
    (hd1 : child ≠ name) (hd2 : child ≠ parent) (hd3 : name ≠ parent) (hp : parent ≠ "")
    (hdt : ∀ x ∈ top, x.1 ≠ child ∧ x.1 ≠ name ∧ x.1 ≠ parent)
    (hdb : ∀ x ∈ below, x.1 ≠ child ∧ x.1 ≠ name ∧ x.1 ≠ parent)
    (n : Nat) :
    Recovers (run fs ((removeProg name child parent grand).take n))
      (top ++ (child, ic) :: (name, i) :: (parent, ip) :: below) ∨
    Recovers (run fs ((removeProg name child parent grand).take n))
      (top ++ (child, ic) :: (parent, ip) :: below) :=
  or_of_split (c08_remove_split fs h name child parent grand ic i ip top below hvol hold hgrand hd1 hd2 hd3 hp hdt hdb n)

theorem revert_fresh {oldHead newHead target : String} {i0 it : Nat} {mid below : List (String × Nat)}
    (hn1 : newHead ≠ oldHead) (ht2 : target ≠ newHead) (hf : ∀ x ∈ mid ++ below, x.1 ≠ newHead ∧ x.1 ≠ oldHead) :
    ∀ x ∈ (oldHead, i0) :: mid ++ (target, it) :: below, x.1 ∉ [newHead] := by
  intro x hx
  simp only [List.cons_append, List.mem_append, List.mem_cons] at hx
  rcases hx with rfl | hx | rfl | hx
  · simpa using hn1.symm
  · simpa using (hf x (List.mem_append_left _ hx)).1
  · simpa using ht2
  · simpa using (hf x (List.mem_append_right _ hx)).1

/-- Reverting, with the commit point: call 9 (counting from 0), the first rename of `volume.meta`. -/
theorem c08_revert_split (fs : FS) (oldHead newHead target : String) (i0 it newIno : Nat)
    (mid below : List (String × Nat))
    (hvol : get fs .vol = some (.volume oldHead))
    (hold : IsChain fs oldHead ((oldHead, i0) :: mid ++ (target, it) :: below))
    (hn1 : newHead ≠ oldHead) (ht : target ≠ "") (ht1 : target ≠ oldHead) (ht2 : target ≠ newHead)
    (hf : ∀ x ∈ mid ++ below, x.1 ≠ newHead ∧ x.1 ≠ oldHead)
    (ha1 : get fs (.img newHead) = none)
    (n : Nat) :
    (n ≤ 9 → Recovers (run fs ((revertProg oldHead newHead target newIno).take n))
      ((oldHead, i0) :: mid ++ (target, it) :: below)) ∧
    (9 < n → Recovers (run fs ((revertProg oldHead newHead target newIno).take n))
      ((newHead, newIno) :: (target, it) :: below)) := by
  let A : List Call := [.create (.img newHead) (.data newIno), .create (.img newHead) (.data newIno), .truncate (.img newHead)]
  let B := encode (.dmetaTmp newHead) (.dmeta newHead) (.disk target)
  let V := encode .volTmp .vol (.volume newHead)
  have eP : revertProg oldHead newHead target newIno = A ++ B ++ V ++ (rmDisk oldHead ++ V) := rfl
  have wpre : Within (Scratch [newHead]) (A ++ B) := by simp [A, B, touched, Scratch]
  have wR : Within (Scratch [oldHead]) (rmDisk oldHead) := by simp [Scratch]
  have fresh := revert_fresh (i0 := i0) (it := it) hn1 ht2 hf
  have fresh' : ∀ x ∈ (newHead, newIno) :: (target, it) :: below, x.1 ∉ [oldHead] :=
    List.forall_mem_cons.mpr ⟨by simpa using hn1, List.forall_mem_cons.mpr ⟨by simpa using ht1,
      fun x hx => by simpa using (hf x (List.mem_append_right _ hx)).2⟩⟩
  have hnew : Recovers (run fs (A ++ B ++ V)) ((newHead, newIno) :: (target, it) :: below) := by
    rw [run_append]
    refine recovers_encode_vol (.step newHead target newIno _ (by simp [A, B, ha1]) (by simp [B]) ht ?_)
    exact isChain_scratch (isChain_suffix fs ((oldHead, i0) :: mid) oldHead (target, it) below hold)
      (fun x hx => fresh x (List.mem_cons_of_mem _ (List.mem_append_right _ hx))) wpre
  -- the rename inside the first `V` comes after `A ++ B` and the two calls of `stage`
  rw [eP, show 9 = (A ++ B).length + 2 from rfl]
  refine recovers_commit_encode fs (A ++ B) (rmDisk oldHead ++ V) .volTmp .vol (.volume newHead) _ _ ⟨oldHead, hvol, hold⟩
    (keeps_scratch fs wpre fresh) (by simp [Uses]) hnew ?_ n
  -- the old head's files go; then `volume.meta` is rewritten with the head it names
  exact (keeps_scratch _ wR fresh').append
    (keeps_encode_same _ _ _ _ (by rw [get_run_within _ .vol wR id, run_append, get_run_encode, if_pos rfl]) (by simp [Uses]))

/-- **C08 (revert).** Reverting to the chain member `target`: whatever prefix of the call sequence of
    `revertDisk` was executed, the directory opens with the chain before, or with a new head directly
    on `target` (the members that were above `target` stay in the directory but are no longer part of
    the chain). -/
theorem c08_revert (fs : FS) (oldHead newHead target : String) (i0 it newIno : Nat)
    (mid below : List (String × Nat))
    (hvol : get fs .vol = some (.volume oldHead))
    (hold : IsChain fs oldHead ((oldHead, i0) :: mid ++ (target, it) :: below))
    (hn1 : newHead ≠ oldHead) (ht : target ≠ "") (ht1 : target ≠ oldHead) (ht2 : target ≠ newHead)
    (hf : ∀ x ∈ mid ++ below, x.1 ≠ newHead ∧ x.1 ≠ oldHead)
    (ha1 : get fs (.img newHead) = none)
    (n : Nat) :
    Recovers (run fs ((revertProg oldHead newHead target newIno).take n))
      ((oldHead, i0) :: mid ++ (target, it) :: below) ∨
    Recovers (run fs ((revertProg oldHead newHead target newIno).take n))
      ((newHead, newIno) :: (target, it) :: below) :=
  or_of_split (c08_revert_split fs oldHead newHead target i0 it newIno mid below hvol hold hn1 ht ht1 ht2 hf ha1 n)

/-- **C08 (durability).** Each program ends with a flush of the directory after its last directory
    update (`crashdiff` checks the same on the real traces). -/
theorem c08_programs_end_flushed (a b c d : String) (i : Nat) :
    (snapshotProg a b c d i).getLast? = some .fsyncDir ∧ (removeProg a b c d).getLast? = some .fsyncDir ∧
    (revertProg a b c i).getLast? = some .fsyncDir :=
  ⟨rfl, rfl, rfl⟩

/-- what the driver's `recover` computes is a chain in the sense of the theorems -/
theorem recover_sound (fs : FS) (c : List (String × Nat)) (h : recover fs = some c) : Recovers fs c := by
  unfold recover at h
  split at h
  · rename_i hd hv
    exact ⟨hd, hv, chainFrom_sound fs _ hd c h⟩
  · cases h

/-! ### non-vacuity: a concrete directory, every prefix of the three programs, the executable recovery -/

private def fs0 : FS :=
  [(.vol, .volume "h2"), (.img "h2", .data 3), (.dmeta "h2", .disk "s1"),
   (.img "s1", .data 2), (.dmeta "s1", .disk "base"), (.img "base", .data 1), (.dmeta "base", .disk "")]

example : recover fs0 = some [("h2", 3), ("s1", 2), ("base", 1)] := by decide +kernel

example : (List.range 24).all (fun n =>
    let r := recover (run fs0 ((snapshotProg "h2" "h3" "s2" "s1" 4).take n))
    r = some [("h2", 3), ("s1", 2), ("base", 1)] ∨ r = some [("h3", 4), ("s2", 3), ("s1", 2), ("base", 1)]) = true := by
  decide +kernel

example : (List.range 13).all (fun n =>
    let r := recover (run fs0 ((removeProg "s1" "h2" "base" "").take n))
    r = some [("h2", 3), ("s1", 2), ("base", 1)] ∨ r = some [("h2", 3), ("base", 1)]) = true := by
  decide +kernel

example : (List.range 20).all (fun n =>
    let r := recover (run fs0 ((revertProg "h2" "h3" "base" 4).take n))
    r = some [("h2", 3), ("s1", 2), ("base", 1)] ∨ r = some [("h3", 4), ("base", 1)]) = true := by
  decide +kernel

end Jiva.Crash
