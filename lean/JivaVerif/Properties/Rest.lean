import JivaVerif.Model.Rest
import JivaVerif.Model.Controller
/-!
# C17 — the replica's REST action gate over the regenerated action table; one C14 fact about `Ctl.chainsAgree`

C14 is mostly about the runtime (panics, fatal errors, deadlocks inside handlers); that part is *searched* by the
restdiff engine (every route × method × body class × state, each request in a child process).  Its one theorem
here, `c14_verify_short_chain_refused`, is about the controller model, which is imported for it alone.
-/
namespace Jiva.Properties
open Jiva

/-- **C17 (REST gate).** An action request is answered by its handler exactly when a handler is
    routed for the action and the replica's current state offers it (`checkAction`); every other
    action request is answered 404 before any handler runs — hence without side effects. -/
theorem c17_rest_gate (st a : String) :
    Rest.served st a = true ↔ (a ∈ Gen.routedActions ∧ a ∈ Rest.actions st) := by
  unfold Rest.served; simp

/-- the table as it is in the source: attaching (`open`) is offered only while the replica is
    closed, so a replica that is open, dirty or rebuilding cannot be attached again (C17) -/
theorem c17_open_only_when_closed :
    ∀ st ∈ ["initial", "closed", "open", "dirty", "rebuilding", "error"],
      Rest.served st "open" = true ↔ st = "closed" := by decide +kernel

/-- I/O-path management that needs an open replica is not offered while it is closed or initial -/
theorem c17_closed_offers_no_data_ops :
    ∀ a ∈ ["snapshot", "reload", "setrebuilding", "setreplicamode", "setrevisioncounter", "setcheckpoint", "close"],
      Rest.served "closed" a = false ∧ Rest.served "initial" a = false := by decide +kernel

theorem c17_error_offers_nothing : ∀ a ∈ Gen.routedActions, Rest.served "error" a = false := by
  -- the row of `Error` is empty
  have : Rest.actions "error" = [] := by decide +kernel
  intro a _; rw [Rest.served, this]; exact Bool.and_false _

/-- a rebuilding replica offers neither taking nor removing a snapshot (either step of the removal) nor revert,
    and can be neither opened nor created again -/
theorem c17_rebuilding_restricted :
    ∀ a ∈ ["removedisk", "replacedisk", "revert", "prepareremovedisk", "snapshot", "open", "create"],
      Rest.served "rebuilding" a = false := by decide +kernel

/-- **C14 (slice bounds).** `VerifyRebuildReplica` compares chains only after checking that both
    are long enough; the model's comparison is total and refuses short chains. -/
theorem c14_verify_short_chain_refused (rwc woc : List String) (ckp : String)
    (h : woc.length < Ctl.ckptIndex rwc ckp + 1) : Ctl.chainsAgree rwc woc ckp = false := by
  unfold Ctl.chainsAgree
  simp [h]

end Jiva.Properties
