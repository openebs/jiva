import JivaVerif.Lemmas.View
/-!
# C08 — the data path under process death: a torn write

"If a replica process dies at any instant — during a write … — every previously acknowledged byte
and every retained snapshot reads back unchanged."  A write in flight may be partially applied.

The data of a request reaches the head file block by block (`fullWriteAt` issues one `pwrite` per run
of blocks; `readModifyWrite` one 4 KiB block that already contains the merged old and new units).
Process death leaves an arbitrary subset `T` of those blocks written (atomicity of a single 4 KiB
block is the assumption; the location map, the pending punch requests and the revision cache live in
memory and are rebuilt from the files by the next open).  The theorems hold for EVERY such subset.

`crashdiff` kills the real process at every mutating call of a write and checks exactly this on the
reopened directory: units outside the request unchanged, each block of the request entirely old or
entirely as the completed write left it.
-/
namespace Jiva.DD
variable {β : Type} [Inhabited β]

/-- the head file after process death during a block write of `[s, s+n)`: the blocks in `T` were
    reached -/
def tornWrite (d : DD β) (s n : Nat) (buf : Nat → β) (T : Nat → Bool) : DD β :=
  { d with
    files := fun i => if i = d.top then
        ⟨fun b => if s ≤ b ∧ b < s + n ∧ T b = true then true else (d.files d.top).alloc b,
         fun u => if s ≤ u / d.bs ∧ u / d.bs < s + n ∧ T (u / d.bs) = true then buf u else (d.files d.top).data u⟩
      else d.files i }

/-- **C08 (torn write, snapshots).** Whatever part of a write reached the disk, every snapshot layer
    reads as before. -/
theorem c08_torn_snapshots (d : DD β) (s n : Nat) (buf : Nat → β) (T : Nat → Bool) (i u : Nat) (hi : i < d.top) :
    (d.tornWrite s n buf T).view i u = d.view i u :=
  view_setHead_below d _ i u hi

/-- **C08 (torn write, live volume).** A unit reads the new (merged) data exactly when its block was
    reached, and exactly what it read before otherwise. -/
theorem c08_torn_live (d : DD β) (htop : 1 ≤ d.top) (s n : Nat) (buf : Nat → β) (T : Nat → Bool) (u : Nat) :
    (d.tornWrite s n buf T).live u =
      if s ≤ u / d.bs ∧ u / d.bs < s + n ∧ T (u / d.bs) = true then buf u else d.live u :=
  live_overlay d htop (fun b => s ≤ b ∧ b < s + n ∧ T b = true) buf u

/-- nothing outside the blocks of the request changes -/
theorem c08_torn_outside (d : DD β) (htop : 1 ≤ d.top) (s n : Nat) (buf : Nat → β) (T : Nat → Bool) (u : Nat)
    (hout : ¬ (s ≤ u / d.bs ∧ u / d.bs < s + n)) : (d.tornWrite s n buf T).live u = d.live u := by
  rw [c08_torn_live d htop]
  exact if_neg fun h => hout ⟨h.1, h.2.1⟩

/-- every block reached: the files are those of the completed write -/
theorem c08_torn_all (d : DD β) (s n : Nat) (buf : Nat → β) :
    (d.tornWrite s n buf (fun _ => true)).files = (d.fullWrite s n buf).files := by
  simp only [tornWrite, fullWrite, File.writeBlocks, and_true]

/-- no block reached: nothing happened -/
theorem c08_torn_none (d : DD β) (s n : Nat) (buf : Nat → β) :
    (d.tornWrite s n buf (fun _ => false)).files = d.files := by
  funext i
  simp only [tornWrite, Bool.false_eq_true, and_false, if_false]
  by_cases h : i = d.top
  · rw [if_pos h, h]
  · exact if_neg h

/-- non-vacuity (a test): two of three blocks reached -/
example :
    let d : DD Nat := (DD.init 2 4).fullWrite 0 4 (fun u => 10 + u)
    let t := d.tornWrite 1 3 (fun u => 90 + u) (fun b => b != 2)
    (List.range 8).map t.live = [10, 11, 92, 93, 14, 15, 96, 97] := by decide +kernel

end Jiva.DD
