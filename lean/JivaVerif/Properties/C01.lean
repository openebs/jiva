import JivaVerif.Lemmas.Refine
/-!
# C01 — a replica reads back exactly what was last written (block semantics)

Model: `Jiva.DD` (replica/diff_disk.go, backup.go, chain part of replica.go/server.go);
specification: `Jiva.DD.Spec`.
The theorems quantify over **every** list of admissible requests: any offset and length (in
units, aligned or not to the block), any number of snapshots, deletions, reverts, reopen with
or without preload, reclaimer steps at any time, hole punching on or off, any block size
`bs > 0` and any volume size.
-/
namespace Jiva.Properties
open Jiva DD
variable {β : Type} [Inhabited β]

/-- **C01 (main).** After any admissible history, a read of any unit range inside the volume
    returns, for every unit, the specified volume content — the payload of the most recent
    write that covered it, or zero (`default`) if it was never written. -/
theorem c01_read_back (bs nb : Nat) (hbs : 0 < bs) (ops : List (Op β))
    (hadm : AdmAll (DD.init bs nb : DD β) ops) (off len u : Nat)
    (hr : off + len ≤ (runWith (DD.init bs nb) Spec.init ops).1.nb * (runWith (DD.init bs nb) Spec.init ops).1.bs)
    (h1 : off ≤ u) (h2 : u < off + len) :
    ((runWith (DD.init bs nb : DD β) Spec.init ops).1.read off len).2 u =
      (runWith (DD.init bs nb : DD β) Spec.init ops).2.vol u := by
  have r := refines_run ops _ _ (refines_init bs nb hbs) hadm
  generalize (runWith (DD.init bs nb : DD β) Spec.init ops) = p at r hr
  show p.1.readUnit u = p.2.vol u
  have hu : u / p.1.bs < p.1.nb := (Nat.div_lt_iff_lt_mul r.wf.bs_pos).mpr (by omega)
  rw [readUnit_eq_live p.1 r.wf u hu]; exact r.live u

/-- **C01 (write).** One `WriteAt`, whatever its alignment, changes exactly the units it covers. -/
theorem c01_write_exact (d : DD β) (h : WF d) (off len : Nat) (buf : Nat → β)
    (hr : off + len ≤ d.nb * d.bs) (u : Nat) :
    (d.write off len buf).live u = if off ≤ u ∧ u < off + len then buf u else d.live u :=
  (writeOk_write d h off len buf hr).live u

/-- **C01 (read is pure).** A read changes neither the volume nor any snapshot. -/
theorem c01_read_pure (d : DD β) (off len i u : Nat) : (d.read off len).1.view i u = d.view i u :=
  view_read d off len i u

/-- **C01 (reopen).** Close + open, with or without extent preload, changes no content. -/
theorem c01_reopen (d : DD β) (pre : Bool) (i u : Nat) : (d.reopen pre).view i u = d.view i u :=
  view_reopen d pre i u

/-- the invariant holds in every reachable state -/
theorem c01_inv (bs nb : Nat) (hbs : 0 < bs) (ops : List (Op β))
    (hadm : AdmAll (DD.init bs nb : DD β) ops) : WF (runWith (DD.init bs nb : DD β) Spec.init ops).1 :=
  (refines_run ops _ _ (refines_init bs nb hbs) hadm).wf

/-! Non-vacuity: a concrete history with an unaligned write across three blocks, a user snapshot,
    an overwrite, punching on, a reopen with preload — it is admissible, and the read-back
    theorem's conclusion can be evaluated. -/
def demoOps01 : List (Op Nat) :=
  [.write 3 18 (fun u => 100 + u), .snapshot true, .setPunch true, .write 0 8 (fun u => 200 + u),
   .snapshot false, .write 4 9 (fun u => 300 + u), .applyHole 0, .reopen true, .read 0 32]

example : AdmAll (DD.init 8 4 : DD Nat) demoOps01 := by
  simp only [demoOps01, AdmAll, Adm]; decide

example : ((List.range 14).map fun u => (runWith (DD.init 8 4 : DD Nat) Spec.init demoOps01).1.readUnit u)
    = [200, 201, 202, 203, 304, 305, 306, 307, 308, 309, 310, 311, 312, 113] := by decide +kernel

end Jiva.Properties
