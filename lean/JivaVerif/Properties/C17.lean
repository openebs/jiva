import JivaVerif.Model.Replica
/-!
# C17 — replica operations are gated by its mode and open/closed state (replica engine part)
The REST action table part is in `Properties/Rest.lean`.
-/
namespace Jiva.Properties
open Jiva

/-- **C17 (closed ⇒ no I/O, no management).** A closed replica refuses every request except `open`
    and leaves its state untouched. -/
theorem c17_closed_refuses (r : Rep) (h : r.isOpen = false) (off len tag n k : Nat) (s : String) (u p : Bool) :
    r.step (.write off len tag) = (r, .refused) ∧ r.step (.cwrite n tag) = (r, .refused) ∧
    r.step (.read off len) = (r, .refused) ∧ r.step (.snap s u) = (r, .refused) ∧
    r.step (.mark s) = (r, .refused) ∧ r.step (.rm s) = (r, .refused) ∧ r.step (.revert s) = (r, .refused) ∧
    r.step (.reopen p) = (r, .refused) ∧ r.step (.reload p) = (r, .refused) ∧ r.step (.resize k) = (r, .refused) ∧
    r.step (.setMode .rw) = (r, .refused) ∧ r.step (.setRev k) = (r, .refused) ∧ r.step (.setCkpt s) = (r, .refused) := by
  unfold Rep.step; simp [h]

/-- **C17 (writes only in RW or WO).** An open replica whose mode has not been set applies nothing
    (this needed the fix 62551a9). -/
theorem c17_write_needs_mode (r : Rep) (h : r.mode = .init) (off len tag n : Nat) :
    r.step (.write off len tag) = (r, .refused) ∧ r.step (.cwrite n tag) = (r, .refused) := by
  unfold Rep.step; simp only [h, ite_self, Bool.or_true, decide_true, if_true, and_self]

/-- the data changes only through an accepted write -/
theorem c17_write_applies_iff (r : Rep) (off len tag : Nat) :
    (r.step (.write off len tag)).2 = .ok ↔
      (r.isOpen = true ∧ r.inVolume off len = true ∧ (r.mode = .rw ∨ r.mode = .wo)) := by
  unfold Rep.step; dsimp only
  cases r.isOpen <;> cases r.inVolume off len <;> cases r.mode <;> simp

/-- **C17 (RW-only management).** Snapshot removal (both steps) and revision-counter updates are
    refused unless the replica is RW. -/
theorem c17_rw_only (r : Rep) (h : r.mode ≠ .rw) (s : String) (k : Nat) :
    r.step (.mark s) = (r, .refused) ∧ r.step (.rm s) = (r, .refused) ∧ r.step (.setRev k) = (r, .refused) := by
  unfold Rep.step; simp [h]

/-- **C17 (attach only while closed).** Opening — what attaching to a controller does first — is
    refused while the replica is open, so it cannot be attached twice. -/
theorem c17_attach_once (r : Rep) (h : r.isOpen = true) (p : Bool) : r.step (.open_ p) = (r, .refused) := by
  unfold Rep.step; simp [h]

/-- the mode is forgotten by close / reopen: a freshly opened replica accepts no write until the
    controller sets WO or RW -/
theorem c17_reopen_resets_mode (r : Rep) (h : r.isOpen = true) (p : Bool) :
    (r.step (.reopen p)).1.mode = .init ∧ (r.step .close).1.mode = .init := by
  unfold Rep.step
  simp only [h, Bool.not_true, Bool.false_eq_true, if_false, apply_ite fun x : Rep × RepOut => x.1.mode, ite_self,
    and_self]

example : ((Rep.init 8 4).run [.setMode .rw, .write 0 8 1, .close, .write 0 8 2, .open_ true, .write 0 8 3]).rev = 2 := by
  decide +kernel

end Jiva.Properties
