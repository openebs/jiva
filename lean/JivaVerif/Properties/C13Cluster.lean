import JivaVerif.Properties.C10Cluster
/-!
# C13 at the level of the volume — "a volume snapshot … has identical content on every replica"

Over the whole-volume model (`Model/Cluster.lean`), for ANY history: every volume snapshot a replica
directory holds is the volume's content at the moment the snapshot was taken (`taken`, ghost) — so
two directories that hold the same snapshot hold the same content for it, whether they were attached
when it was taken or received it through a rebuild — and a snapshot is taken only while all `rf`
replicas are RW.
-/
namespace Jiva.Cluster
open Jiva Sys

structure InvS (s : Sys) : Prop where
  sub   : ∀ i p, p ∈ (s.node i).snaps → p ∈ s.taken   -- what a directory holds was taken, with that content
  bound : ∀ p ∈ s.taken, p.1 < s.nextSnap   -- the next id is fresh
  func  : ∀ p ∈ s.taken, ∀ q ∈ s.taken, p.1 = q.1 → p.2 = q.2   -- one id, one content

theorem InvS.congr {s s' : Sys} (h : InvS s) (hn : s'.node = s.node) (hx : s'.nextSnap = s.nextSnap)
    (ht : s'.taken = s.taken) : InvS s' :=
  ⟨hn ▸ ht ▸ h.sub, ht ▸ hx ▸ h.bound, ht ▸ h.func⟩

theorem invS_init (rf n : Nat) : InvS (init rf n) :=
  ⟨fun _ _ h => (by cases h), fun _ h => (by cases h), fun _ h => (by cases h)⟩

theorem invS_setNode (s : Sys) (h : InvS s) (i : Nat) (nd : Node) (hnd : ∀ p, p ∈ nd.snaps → p ∈ s.taken) :
    InvS (s.setNode i nd) := by
  refine ⟨fun j => ?_, h.bound, h.func⟩
  rw [node_setNode]; split
  · exact hnd
  · exact h.sub j

theorem invS_step (s : Sys) (h0 : Inv0 s) (h : InvS s) (op : Op) : InvS (s.step op).1 := by
  refine step_ind (P := fun _ x => InvS x.1) s op (fun _ _ => h) (reg := fun i e _ _ => ?_)
    (write := fun f a ok _ _ => ⟨fun i p hp => h.sub i p (writeNode_snaps s f a i ▸ hp), h.bound, h.func⟩)
    (add := fun i _ _ _ _ _ _ => invS_setNode s h i _ (h.sub i))
    (setrb := fun i _ _ _ => invS_setNode s h i _ (fun p hp => by cases hp))
    (promote := fun i src _ _ _ _ _ => invS_setNode s h i _ (h.sub src))
    (rbdone := fun i _ _ _ => invS_setNode s h i _ (h.sub i))
    (remove := fun i _ _ _ => invS_setNode s h i _ (h.sub i))
    (snap := fun _ _ => ?_)
    (stop := ⟨h.sub, h.bound, h.func⟩)   -- a stop leaves `snaps` alone
  · intro s1
    have h1 : InvS s1 := invS_setNode s h i _ (h.sub i)
    have h2 : InvS { s1 with maxRev := some e } := h1.congr rfl rfl rfl
    -- `start` replaces the record of `e` and changes fields the invariant does not read
    exact ⟨fun _ => h1, fun _ _ => ⟨h2, fun _ => (invS_setNode _ h2 e { s1.node e with att := .rw } (h1.sub e)).congr rfl rfl rfl⟩⟩
  have hb : ∀ p ∈ s.taken ++ [(s.nextSnap, s.stream)], p.1 < s.nextSnap + 1 := by
    intro p hp
    rcases List.mem_append.mp hp with h1 | h1
    · exact Nat.lt_succ_of_lt (h.bound p h1)
    · rw [List.mem_singleton.mp h1]; exact Nat.lt_succ_self _
  refine ⟨fun i p hp => ?_, hb, fun p hp q hq hpq => ?_⟩
  · -- an RW replica holds the stream (`Inv0.rw`): what it freezes is what is recorded as taken
    dsimp only at hp; split at hp
    · rename_i hrw
      rw [(h0.rw i hrw).1] at hp
      exact (List.mem_append.mp hp).elim (fun h1 => List.mem_append_left _ (h.sub i p h1)) (List.mem_append_right _)
    · exact List.mem_append_left _ (h.sub i p hp)
  · -- the new id is above every id in use
    rcases List.mem_append.mp hp with h1 | h1 <;> rcases List.mem_append.mp hq with h2 | h2
    · exact h.func p h1 q h2 hpq
    · rw [List.mem_singleton.mp h2] at hpq; exact absurd hpq (Nat.ne_of_lt (h.bound p h1))
    · rw [List.mem_singleton.mp h1] at hpq; exact absurd hpq.symm (Nat.ne_of_lt (h.bound q h2))
    · rw [List.mem_singleton.mp h1, List.mem_singleton.mp h2]

theorem invS_run (rf n : Nat) (ops : List Op) : InvS ((init rf n).run ops) :=
  (run_ind (P := fun s => Inv0 s ∧ InvS s) (fun s h op => ⟨inv0_step s h.1 op, invS_step s h.1 h.2 op⟩) ops _
    ⟨inv0_init rf n, invS_init rf n⟩).2

/-- **C13 (a volume snapshot has identical content on every replica).** ANY history: a snapshot a
    replica directory holds is the content the volume had when the snapshot was taken; two
    directories holding the same snapshot hold the same content for it. -/
theorem c13_snapshot_identical_on_all_replicas (rf n : Nat) (ops : List Op) :
    let s := (init rf n).run ops
    (∀ i p, p ∈ (s.node i).snaps → p ∈ s.taken) ∧
    (∀ i j k l l', (k, l) ∈ (s.node i).snaps → (k, l') ∈ (s.node j).snaps → l = l') := by
  intro s
  have h := invS_run rf n ops
  refine ⟨h.sub, ?_⟩
  intro i j k l l' hi hj
  exact h.func (k, l) (h.sub i _ hi) (k, l') (h.sub j _ hj) rfl

/-- **C13 (refused unless all RF replicas are RW).** -/
theorem c13_cluster_snapshot_needs_all_rw (s : Sys) (h : s.rwCount ≠ s.rf) : s.stepSnap = (s, .refused) :=
  if_pos (.inr h)

/-- non-vacuity (a test): RF 3, a write, a snapshot with all three RW, a write, replica 2 is removed,
    re-added and rebuilt: it holds snapshot 0 with the same content as the others -/
example :
    let ops : List Op := [.reg 0 0, .reg 1 0, .add 1, .setrb 1, .promote 1 0, .rbdone 1, .add 2, .setrb 2, .promote 2 0,
                          .rbdone 2, .write [] [], .snap, .write [] [], .remove 2, .add 2, .setrb 2, .promote 2 1, .rbdone 2]
    let s := (init 3 3).run ops
    (s.node 0).snaps = [(0, [0])] ∧ (s.node 2).snaps = [(0, [0])] ∧ (s.node 2).log = [0, 1] ∧ s.taken = [(0, [0])] := by
  decide +kernel

end Jiva.Cluster
