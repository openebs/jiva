import JivaVerif.Lemmas.Refine
/-!
# C06 — snapshots are immutable and revert restores exactly the snapshot image

A retained user-created snapshot is an index `i` with `d.ur i = true` (metadata: UserCreated and
not marked Removed); its content is `d.view i`, its specification the image `img i` frozen at
snapshot time.  Hole punching is part of the model: requests are queued by writes and by preload and
applied by the environment at any later time.
-/
namespace Jiva.Properties
open Jiva DD
variable {β : Type} [Inhabited β]

/-- **C06 (main).** After any admissible history — writes of any shape, reclaimer steps at any
    time, reopen/preload, deletion of other snapshots — every retained user-created snapshot shows
    exactly the image frozen when it was taken. -/
theorem c06_frozen (bs nb : Nat) (hbs : 0 < bs) (ops : List (Op β))
    (hadm : AdmAll (DD.init bs nb : DD β) ops) (i : Nat)
    (hi : (runWith (DD.init bs nb : DD β) Spec.init ops).1.ur i = true) (u : Nat) :
    (runWith (DD.init bs nb : DD β) Spec.init ops).1.view i u =
      (runWith (DD.init bs nb : DD β) Spec.init ops).2.img i u :=
  (refines_run ops _ _ (refines_init bs nb hbs) hadm).snap i hi u

/-- The frozen image is the volume at the moment of the snapshot … -/
theorem c06_image_is_volume (s : Spec β) (top : Nat) (user : Bool) :
    (s.step top (.snapshot user)).img top = s.vol :=
  if_pos rfl

/-- … and no later request changes it, except that deleting another member renumbers
    (`removeIdx k` moves index `i > k` to `i - 1`) and folding `k` replaces the image of `k-1`,
    which admissibility forbids for a retained user-created `k-1`. -/
theorem c06_image_stable (s : Spec β) (top : Nat) (op : Op β) (i : Nat)
    (h1 : ∀ user, op = .snapshot user → i ≠ top)
    (h2 : ∀ k, op = .coalesce k → i ≠ k - 1)
    (h3 : ∀ k, op ≠ .removeIdx k) :
    (s.step top op).img i = s.img i := by
  cases op with
  | snapshot user => exact if_neg (h1 user rfl)
  | coalesce k => exact if_neg (h2 k rfl)
  | removeIdx k => exact absurd rfl (h3 k)
  | _ => rfl

theorem c06_image_renumbered (s : Spec β) (top k i : Nat) :
    (s.step top (.removeIdx k : Op β)).img i = if i < k then s.img i else s.img (i + 1) := rfl

/-- **C06 (reclamation).** Applying any queued punch request, at any time, changes neither the
    live volume nor a retained user-created snapshot. -/
theorem c06_reclaim_safe (d : DD β) (h : WF d) (j i u : Nat) (hi : d.ur i = true ∨ i = d.top) :
    (d.applyHole j).view i u = d.view i u :=
  view_applyHole d h j i u hi

/-- **C06 (writes).** A write never touches any snapshot layer. -/
theorem c06_write_leaves_snapshots (d : DD β) (h : WF d) (off len : Nat) (buf : Nat → β)
    (hr : off + len ≤ d.nb * d.bs) (i u : Nat) (hi : i < d.top) :
    (d.write off len buf).view i u = d.view i u :=
  (writeOk_write d h off len buf hr).below i u hi

/-- **C06 (revert).** Reverting to snapshot `k` makes the volume read back exactly the image of
    `k`; the snapshots at or below `k` are unchanged. -/
theorem c06_revert (d : DD β) (k u : Nat) : (d.revert k).live u = d.view k u := live_revert d k u

theorem c06_revert_keeps (d : DD β) (k i u : Nat) (hi : i ≤ k) : (d.revert k).view i u = d.view i u :=
  view_revert d k i u hi

/-- the property's own exclusion, recorded so that it is not mistaken for a proof gap: with
    reclamation on, an *automatic* snapshot may be thinned (here preload punches the base's copy of
    a block that the next automatic snapshot also holds), so nothing is promised about its image. -/
example : ∃ d : DD Nat, WF d ∧ d.ur 1 = false ∧ (d.applyHole 0).view 1 0 ≠ d.view 1 0 := by
  refine ⟨((((DD.init 8 2 : DD Nat).setPunch true).write 0 8 (fun _ => 7)).snapshot false |>.write 0 8 (fun _ => 9)), ?_, ?_, ?_⟩
  · have h0 := wf_setPunch _ (wf_init 8 2 (by decide) : WF (DD.init 8 2 : DD Nat)) true
    have h1 := (writeOk_write _ h0 0 8 (fun _ => 7) (by decide)).wf
    have h2 := wf_snapshot _ h1 false
    exact (writeOk_write _ h2 0 8 (fun _ => 9) (by decide)).wf
  · decide
  · decide

/-! Non-vacuity of `c06_frozen`: a history with a user snapshot, later overwrites that queue punch
    requests for the automatic layer above it, the reclaimer, a reopen with preload. -/
def demoOps06 : List (Op Nat) :=
  [.setPunch true, .write 0 16 (fun u => 100 + u), .snapshot true, .write 0 8 (fun u => 200 + u),
   .snapshot false, .write 0 16 (fun u => 300 + u), .applyHole 0, .reopen true, .applyHole 0]

example : AdmAll (DD.init 8 4 : DD Nat) demoOps06 := by
  simp only [demoOps06, AdmAll, Adm]; decide
example : (runWith (DD.init 8 4 : DD Nat) Spec.init demoOps06).1.ur 1 = true := by decide +kernel
example : (runWith (DD.init 8 4 : DD Nat) Spec.init demoOps06).1.pend.length +
          (runWith (DD.init 8 4 : DD Nat) Spec.init (demoOps06.take 6)).1.pend.length ≥ 1 := by decide +kernel

end Jiva.Properties
