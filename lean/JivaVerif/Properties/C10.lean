import JivaVerif.Lemmas.Rep
/-!
# C10 — the revision counter counts applied writes exactly and never goes back
Replica side.  `rev` models the persisted counter (`revision.counter`, one 4 KiB O_DIRECT block,
rewritten by `increaseRevisionCounter` under `revisionLock`; the cache is reloaded from the file by
`initRevisionCounter` on every construct).  The promotion half (`SetRevisionCounter` inside the
controller's critical section) is `c07_gate` in `Properties/Controller.lean`.
-/
namespace Jiva.Properties
open Jiva

/-- writes that were applied while RW -/
def rwWrites (r : Rep) : List RepOp → Nat
  | [] => 0
  | op :: ops =>
    (match op with
     | .write off len _ => if r.isOpen && r.inVolume off len && r.mode = .rw then 1 else 0
     | .cwrite n _ => if r.isOpen && r.mode = .rw then n else 0
     | _ => 0) + rwWrites (r.step op).1 ops

/-- requests by which the counter is set from outside: `SetRevisionCounter`, and in the rebuild
    protocol of the harness the swap to the rebuilt replica (another replica's counter from then on)
    and its promotion (`SetRevisionCounter` by the controller, see `c07_gate`) -/
def setsRev : RepOp → Bool
  | .setRev _ | .rbReload | .rbPromote => true
  | _ => false

def noSetRev : List RepOp → Prop
  | [] => True
  | op :: ops => setsRev op = false ∧ noSetRev ops

/-- one request: a write applied in RW adds exactly one; a write applied in WO, a refused write and
    every other request except `setRev` leave the counter alone -/
theorem c10_step (r : Rep) (op : RepOp) (h : setsRev op = false) :
    (r.step op).1.rev = r.rev + rwWrites r [op] := by
  -- `apply_ite` takes `.1.rev` through the conditionals of `Rep.step`: `split` is dear on a goal full of `Rep` records
  cases op <;> simp only [Rep.step, rwWrites, apply_ite fun x : Rep × RepOut => x.1.rev, ite_self, Nat.add_zero]
  case setRev | rbReload | rbPromote => cases h
  case write off len tag =>
    cases r.isOpen <;> cases r.inVolume off len <;> cases r.mode <;> rfl
  case cwrite n tag =>
    cases r.isOpen <;> cases r.mode <;> rfl

/-- **C10 (exact).** Over any history without `SetRevisionCounter` — writes, mode changes,
    snapshots, deletions, reverts, close/open/reload — the counter grows by exactly the number of
    writes applied while RW. -/
theorem c10_exact (ops : List RepOp) : ∀ (r : Rep), noSetRev ops →
    (r.run ops).rev = r.rev + rwWrites r ops := by
  induction ops with
  | nil => exact fun _ _ => rfl
  | cons op ops ih =>
    intro r hn
    show ((r.step op).1.run ops).rev = r.rev + rwWrites r (op :: ops)
    rw [ih _ hn.2, c10_step r op hn.1]
    simp only [rwWrites]; omega

/-- **C10 (never goes back).** -/
theorem c10_monotone (ops : List RepOp) (r : Rep) (h : noSetRev ops) : r.rev ≤ (r.run ops).rev := by
  rw [c10_exact ops r h]; omega

/-- **C10 (guard).** The counter can be set from outside only while the replica is open and RW. -/
theorem c10_setrev_guard (r : Rep) (n : Nat) (h : r.isOpen = false ∨ r.mode ≠ .rw) :
    r.step (.setRev n) = (r, .refused) := by
  unfold Rep.step; rcases h with h | h <;> simp [h]

/-- non-vacuity: RW write, switch to WO, write, reopen, RW write: two counted -/
example : ((Rep.init 8 4).run [.setMode .rw, .write 0 8 1, .setMode .wo, .write 3 9 2, .reopen true,
    .setMode .rw, .write 1 1 3]).rev = 3 := by decide +kernel

end Jiva.Properties
