import JivaVerif.Model.Locks
import JivaVerif.Generated.Locks
/-!
# C14 — lock discipline of the management paths (the part of C14 that is proved)

The property also forbids panics and process exits; those are searched for by `restdiff`
(exploration).  What is proved here: along every control-flow path (loops taken zero times or once)
of every function that handles a mutex in the controller, the replica and their REST servers, no
lock is left held, no lock is taken twice, nothing is unlocked that is not held, and no function
that takes a lock is called while the caller holds it.  The event sequences are regenerated from
/repo's working tree on every run; the statement is evaluated by the kernel on them.
-/
namespace Jiva.Locks

theorem run_append (h : Held) (a b : List (Nat × Nat)) :
    run h (a ++ b) = match run h a with | some h' => run h' b | none => none := by
  induction a generalizing h with
  | nil => rfl
  | cons e es ih =>
    simp only [List.cons_append, run]
    cases step h e with
    | none => rfl
    | some h' => exact ih h'

theorem ok_prefix (pre post : List (Nat × Nat)) (e : Nat × Nat) (hp : pathOk (pre ++ e :: post) = true) :
    ∃ h h', run ⟨[], []⟩ pre = some h ∧ step h e = some h' := by
  unfold pathOk at hp
  rw [run_append] at hp
  cases hr : run ⟨[], []⟩ pre with
  | none => rw [hr] at hp; cases hp
  | some h =>
    rw [hr] at hp
    cases hs : step h e with
    | none => simp only [run, hs] at hp; cases hp
    | some h' => exact ⟨h, h', rfl, hs⟩

-- An event is (kind, lock) with kind 0 Lock, 1 Unlock, 2 RLock, 3 RUnlock, 4 / 5 a call of a function that takes the
-- write / read lock (`Gen.lockPaths`).

/-- every `Unlock` of an accepted sequence finds its lock held -/
theorem c14_unlock_finds_held (p pre post : List (Nat × Nat)) (l : Nat) (hp : pathOk p = true)
    (e : p = pre ++ (1, l) :: post) : ∃ h, run ⟨[], []⟩ pre = some h ∧ h.w.contains l = true := by
  obtain ⟨h, h', hr, hs⟩ := ok_prefix pre post (1, l) (e ▸ hp)
  cases c : h.w.contains l with
  | true => exact ⟨h, hr, c⟩
  | false => rw [step, if_neg (ne_true_of_eq_false c)] at hs; cases hs

/-- every `Lock` of an accepted sequence finds its lock free (no self-dead-lock) -/
theorem c14_lock_finds_free (p pre post : List (Nat × Nat)) (l : Nat) (hp : pathOk p = true)
    (e : p = pre ++ (0, l) :: post) : ∃ h, run ⟨[], []⟩ pre = some h ∧ h.w.contains l = false ∧ h.r.contains l = false := by
  obtain ⟨h, h', hr, hs⟩ := ok_prefix pre post (0, l) (e ▸ hp)
  cases c : (h.w.contains l || h.r.contains l) with
  | false => exact ⟨h, hr, Bool.or_eq_false_iff.mp c⟩
  | true => rw [step, if_pos c] at hs; cases hs

/-- an accepted sequence ends with nothing held -/
theorem c14_nothing_held_at_exit (p : List (Nat × Nat)) (hp : pathOk p = true) :
    run ⟨[], []⟩ p = some ⟨[], []⟩ := by
  unfold pathOk at hp
  cases hr : run ⟨[], []⟩ p with
  | none => rw [hr] at hp; cases hp
  | some h =>
    rw [hr] at hp
    obtain ⟨w, r⟩ := h
    simp only [Bool.and_eq_true, List.isEmpty_iff] at hp
    rw [hp.1, hp.2]

/-- **C14 (lock discipline).** Every lock-event sequence of every function of the current source is
    accepted. -/
theorem c14_locks_balanced : allOk Gen.lockPaths = true := by decide +kernel

/-- every function that handles a lock is covered: none uses a construct the enumeration cannot follow -/
theorem c14_locks_all_analysed : Gen.lockSkipped = [] := rfl

/-- tests: the checker rejects a path that returns with the lock held (seed C14b), a double unlock (defect g), a
    locking callee under the lock (defect h) and a lock taken twice; it accepts a read lock taken twice -/
example : pathOk [(0, 0)] = false ∧ pathOk [(0, 0), (1, 0), (1, 0)] = false ∧ pathOk [(0, 0), (5, 0), (1, 0)] = false ∧
    pathOk [(0, 0), (0, 0), (1, 0), (1, 0)] = false ∧ pathOk [(2, 0), (2, 0), (3, 0), (3, 0)] = true := by
  decide +kernel

end Jiva.Locks
