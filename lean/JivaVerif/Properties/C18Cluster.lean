import JivaVerif.Properties.C10Cluster
import JivaVerif.Lemmas.ListAux
/-!
# C07 / C18 at the level of the volume — "at most one replica is rebuilding", "never more than RF"

Over the whole-volume model, for ANY history: at most one attached replica is WO at any time, and the
number of attached replicas never exceeds the replication factor.  `Sys.woCount` is the count the property speaks
of (the model has only `hasWO`).
-/
namespace Jiva.Cluster
open Jiva Sys

theorem count_setNode_le (p : Node → Bool) (s : Sys) (i : Nat) (nd : Node) :
    (s.setNode i nd).idx.countP (fun j => p ((s.setNode i nd).node j)) ≤ s.idx.countP (fun j => p (s.node j)) + 1 := by
  show (List.range s.n).countP _ ≤ (List.range s.n).countP _ + 1
  have := List.countP_le_add_count (fun j => p (s.node j)) (fun j => p ((s.setNode i nd).node j)) i
    (fun j hj => by rw [node_setNode_ne s nd hj]) (List.range s.n)
  rw [List.count_range] at this; split at this <;> omega

theorem count_setNode_mono (p : Node → Bool) (s : Sys) (i : Nat) (nd : Node) (h : p nd = true → p (s.node i) = true) :
    (s.setNode i nd).idx.countP (fun j => p ((s.setNode i nd).node j)) ≤ s.idx.countP (fun j => p (s.node j)) := by
  refine List.countP_mono_left fun j _ => ?_
  rw [node_setNode]; split
  · rename_i e; exact e ▸ h
  · exact id

def Sys.woCount (s : Sys) : Nat := s.idx.countP fun i => (s.node i).att = .wo

theorem woCount_eq_zero (s : Sys) (h : s.hasWO = false) : s.woCount = 0 :=
  List.countP_eq_zero.mpr fun j hj => by simpa using List.any_eq_false.mp h j hj

theorem memberCount_eq_zero (s : Sys) (h : ∀ i, (s.node i).att = .none) : s.memberCount = 0 :=
  List.countP_eq_zero.mpr fun j _ => by simp [h j]

/-- The invariant of C07 / C18 (M for members): the two bounds of the property. -/
structure InvM (s : Sys) : Prop where
  rfpos : 1 ≤ s.rf   -- the property's hypothesis (no step changes `rf`): the start of the volume needs room for one member
  wo1   : s.woCount ≤ 1
  mem   : s.memberCount ≤ s.rf

theorem invM_init (rf n : Nat) (h : 1 ≤ rf) : InvM (init rf n) := by
  refine ⟨h, ?_, ?_⟩
  · rw [woCount_eq_zero (init rf n) (List.any_eq_false.mpr fun _ _ => by simp [init])]; exact Nat.zero_le _
  · rw [memberCount_eq_zero (init rf n) fun _ => rfl]; exact Nat.zero_le _

/-- nobody is attached in `t` who was not in `s`, in the same mode -/
theorem invM_of_detach (s t : Sys) (h : InvM s) (hn : t.n = s.n) (hrf : t.rf = s.rf)
    (hwo : ∀ j, (t.node j).att = .wo → (s.node j).att = .wo)
    (hmem : ∀ j, (t.node j).att ≠ .none → (s.node j).att ≠ .none) : InvM t := by
  refine ⟨hrf ▸ h.rfpos, Nat.le_trans ?_ h.wo1, hrf ▸ Nat.le_trans ?_ h.mem⟩
  · unfold Sys.woCount idx; rw [hn]
    exact List.countP_mono_left fun j _ hj => by simpa using hwo j (by simpa using hj)
  · unfold memberCount idx; rw [hn]
    exact List.countP_mono_left fun j _ hj => by simpa using hmem j (by simpa using hj)

theorem InvM.congr {s s' : Sys} (h : InvM s) (hrf : s'.rf = s.rf) (hnn : s'.n = s.n) (hn : s'.node = s.node) : InvM s' :=
  invM_of_detach s s' h hnn hrf (fun _ => hn ▸ id) (fun _ => hn ▸ id)

/-- for each of the two counts: the new record does not newly count, or there is room for one more -/
theorem invM_setNode (s : Sys) (h : InvM s) (i : Nat) (nd : Node)
    (hwo : (nd.att = .wo → (s.node i).att = .wo) ∨ s.woCount = 0)
    (hmem : (nd.att ≠ .none → (s.node i).att ≠ .none) ∨ s.memberCount < s.rf) : InvM (s.setNode i nd) := by
  refine ⟨h.rfpos, ?_, ?_⟩
  · rcases hwo with m | z
    · exact Nat.le_trans (count_setNode_mono (fun nd => decide (nd.att = .wo)) s i nd (by simpa using m)) h.wo1
    · exact Nat.le_trans (count_setNode_le (fun nd => decide (nd.att = .wo)) s i nd) (Nat.le_of_eq (congrArg (· + 1) z))
  · rcases hmem with m | z
    · exact Nat.le_trans (count_setNode_mono (fun nd => decide (nd.att ≠ .none)) s i nd (by simpa using m)) h.mem
    · exact Nat.le_trans (count_setNode_le (fun nd => decide (nd.att ≠ .none)) s i nd) z

theorem invM_step (s : Sys) (h0 : Inv0 s) (h : InvM s) (op : Op) : InvM (s.step op).1 := by
  refine step_ind (P := fun _ x => InvM x.1) s op (fun _ _ => h) (reg := fun i e hd _ => ?_)
    (write := fun f a ok _ _ => invM_of_detach s _ h rfl rfl
      (fun j hj => (writeNode_att_cases s f a j).elim (fun e => by rw [e] at hj; cases hj) (· ▸ hj))
      (fun j hj => (writeNode_att_cases s f a j).elim (fun e => absurd e hj) (· ▸ hj)))
    (add := fun i _ _ _ hwo hlt _ => invM_setNode s h i _ (.inr (woCount_eq_zero s hwo)) (.inr hlt))
    (setrb := fun i _ _ _ => invM_setNode s h i _ (.inl id) (.inl id))
    (promote := fun i src _ _ _ hwo _ =>
      invM_setNode s h i _ (.inl fun ha => by cases ha) (.inl fun _ => by rw [hwo]; exact fun hc => by cases hc))
    (rbdone := fun i _ _ _ => invM_setNode s h i _ (.inl id) (.inl id))
    (remove := fun i _ _ _ => invM_setNode s h i _ (.inl fun ha => by cases ha) (.inl fun ha => absurd rfl ha))
    (snap := fun _ _ => invM_of_detach s _ h rfl rfl (fun _ => id) (fun _ => id))
    (stop := invM_of_detach s _ h rfl rfl (fun j hj => by cases hj) (fun j hj => absurd rfl hj))
  intro s1
  have h1 : InvM s1 := invM_setNode s h i _ (.inl id) (.inl id)
  have h2 : InvM { s1 with maxRev := some e } := h1.congr rfl rfl rfl
  refine ⟨fun _ => h1, fun _ _ => ⟨h2, fun _ => ?_⟩⟩
  -- the volume starts on `e`: nobody was attached (`Inv0.dn`), so there is room
  have hnone : ∀ j, (s1.node j).att = .none := by
    intro j; rw [node_setNode_proj Node.att]
    · exact h0.dn hd j
    · rfl
  exact (invM_setNode _ h2 e { s1.node e with att := .rw } (.inl fun ha => by cases ha)
    (.inr (Nat.lt_of_le_of_lt (Nat.le_of_eq (memberCount_eq_zero _ hnone)) h1.rfpos))).congr rfl rfl rfl

theorem invM_run (rf n : Nat) (h : 1 ≤ rf) (ops : List Op) : InvM ((init rf n).run ops) :=
  (run_ind (P := fun s => Inv0 s ∧ InvM s) (fun s h op => ⟨inv0_step s h.1 op, invM_step s h.1 h.2 op⟩) ops _
    ⟨inv0_init rf n, invM_init rf n h⟩).2

/-- **C07 / C18 (at most one replica is rebuilding; never more replicas than the replication factor).**
    `rf ≥ 1`, ANY history of the whole volume: in every reachable state at most one attached replica is
    WO, and the number of attached replicas does not exceed the replication factor. -/
theorem c18_cluster_one_wo_and_at_most_rf (rf n : Nat) (h : 1 ≤ rf) (ops : List Op) :
    let s := (init rf n).run ops
    s.woCount ≤ 1 ∧ s.memberCount ≤ s.rf := by
  intro s
  have hi := invM_run rf n h ops
  exact ⟨hi.wo1, hi.mem⟩

end Jiva.Cluster
