/-
  Model of the controller–replica data connection (rpc/wire.go, rpc/client.go, rpc/server.go).

  Codec: a frame is  magic:u16  seq:u32  type:u32  offset:i64  size:i64  len:u32  data[len],
  little endian.  Fields are natural numbers below their bit width (`offset`/`size` are the
  two's-complement images of the Go `int64`s); bytes are naturals below 256.

  Client loop: the single goroutine that assigns sequence numbers, remembers in-flight requests
  and completes them when a reply with that number arrives or the connection is declared broken.
-/
namespace Jiva.Rpc

def magicVersion : Nat := 0x1b03

structure Msg where
  magic  : Nat
  seq    : Nat
  typ    : Nat
  offset : Nat
  size   : Nat
  data   : List Nat
  deriving DecidableEq, Repr

def Msg.WF (m : Msg) : Prop :=
  m.magic < 2 ^ 16 ∧ m.seq < 2 ^ 32 ∧ m.typ < 2 ^ 32 ∧ m.offset < 2 ^ 64 ∧ m.size < 2 ^ 64 ∧
  m.data.length < 2 ^ 32 ∧ ∀ b ∈ m.data, b < 256

/-- little-endian bytes of `x`, `n` of them -/
def leBytes : Nat → Nat → List Nat
  | 0,     _ => []
  | n + 1, x => (x % 256) :: leBytes n (x / 256)

/-- value of a little-endian byte string -/
def leVal : List Nat → Nat
  | []      => 0
  | b :: bs => b + 256 * leVal bs

/-- `Wire.Write` -/
def encode (m : Msg) : List Nat :=
  leBytes 2 m.magic ++ leBytes 4 m.seq ++ leBytes 4 m.typ ++ leBytes 8 m.offset ++ leBytes 8 m.size ++
  leBytes 4 m.data.length ++ m.data

/-- the header of a frame: field names of `rpc.Message` and their widths in bytes, in the order
    `Wire.Write` sends them (little endian); the payload follows its length -/
def layout : List (String × Nat) :=
  [("MagicVersion", 2), ("Seq", 4), ("Type", 4), ("Offset", 8), ("Size", 8), ("len", 4)]

def fieldVal (m : Msg) : String → Nat
  | "MagicVersion" => m.magic | "Seq" => m.seq | "Type" => m.typ | "Offset" => m.offset | "Size" => m.size
  | "len" => m.data.length | _ => 0

/-- `encode` is the layout, field by field, followed by the payload -/
theorem encode_layout (m : Msg) :
    encode m = (layout.flatMap fun f => leBytes f.2 (fieldVal m f.1)) ++ m.data := by
  simp only [encode, layout, List.flatMap_cons, List.flatMap_nil, fieldVal, List.append_nil, List.append_assoc]

inductive Dec where
  | ok (m : Msg) (rest : List Nat)
  | reject                 -- wrong magic: "Wrong API version received"
  | short                  -- the stream ended inside a frame (io.EOF / ErrUnexpectedEOF)
  deriving DecidableEq, Repr

/-- `Wire.Read` on a byte stream -/
def decode (bs : List Nat) : Dec :=
  if bs.length < 2 then .short else
  let magic := leVal (bs.take 2)
  if magic ≠ magicVersion then .reject else
  let r0 := bs.drop 2
  if r0.length < 28 then .short else
  let seq := leVal (r0.take 4)
  let r1 := r0.drop 4
  let typ := leVal (r1.take 4)
  let r2 := r1.drop 4
  let off := leVal (r2.take 8)
  let r3 := r2.drop 8
  let size := leVal (r3.take 8)
  let r4 := r3.drop 8
  let len := leVal (r4.take 4)
  let r5 := r4.drop 4
  if r5.length < len then .short else
  .ok ⟨magic, seq, typ, off, size, r5.take len⟩ (r5.drop len)

/-- decode as many frames as the stream holds -/
def decodeAll : Nat → List Nat → List Msg × Dec
  | 0, bs => ([], decode bs)
  | fuel + 1, bs =>
    match decode bs with
    | .ok m rest => if rest.isEmpty then ([m], .short) else
        let (ms, d) := decodeAll fuel rest
        (m :: ms, d)
    | d => ([], d)

/-! ### server: `createResponse` -/

def typeRead : Nat := 0
def typeWrite : Nat := 1
def typeResponse : Nat := 2
def typeError : Nat := 3
def typeEOF : Nat := 4
def typePing : Nat := 6
def typeSync : Nat := 8
def typeUnmap : Nat := 9

inductive SrvErr where
  | none | eof (count : Nat) | err (text : List Nat)

/-- `createResponse count msg err` (msg.Data already holds what was read, for reads) -/
def createResponse (m : Msg) (e : SrvErr) : Msg :=
  let data := if m.typ = typeWrite then [] else m.data
  let size0 := m.data.length
  match e with
  | .none => { m with magic := magicVersion, typ := typeResponse, size := size0, data := data }
  | .eof c => { m with magic := magicVersion, typ := typeEOF, size := (data.take c).length, data := data.take c }
  | .err t => { m with magic := magicVersion, typ := typeError, size := t.length, data := t }

/-! ### client loop -/

inductive Res where
  | ok (typ size : Nat)     -- completed by a reply frame
  | err                     -- completed with the connection's error
  deriving DecidableEq, Repr

structure Cl where
  seq      : Nat                       -- last sequence number handed out
  pending  : List (Nat × Nat)          -- (sequence number, request id) in flight
  broken   : Bool                      -- Client.err ≠ nil
  done     : List (Nat × Res)          -- completions, in order
  notified : Nat                       -- sends on closeChan (what detaches the replica)
  sent     : List (Nat × Nat)          -- frames handed to the writer (seq, id)
  deriving Repr

def Cl.init : Cl := ⟨0, [], false, [], 0, []⟩

inductive Ev where
  | request (id : Nat)
  | response (seq typ size : Nat)
  | transportErr               -- read/write error, or SetError after a deadline

/-- `handleRequest` (and the `c.err` test of `operation`) -/
def Cl.onRequest (c : Cl) (id : Nat) : Cl :=
  if c.broken then { c with done := c.done ++ [(id, .err)] }
  else { c with seq := c.seq + 1, pending := c.pending ++ [(c.seq + 1, id)], sent := c.sent ++ [(c.seq + 1, id)] }

/-- `handleResponse` for a frame read from the wire -/
def Cl.onResponse (c : Cl) (s t z : Nat) : Cl :=
  if c.broken then c else
  match c.pending.find? (fun p => p.1 = s) with
  | some p => { c with pending := c.pending.filter (fun q => q.1 ≠ s), done := c.done ++ [(p.2, .ok t z)] }
  | none   => c

/-- `handleResponse` for a transport error -/
def Cl.onErr (c : Cl) : Cl :=
  if c.broken then c else
  { c with broken := true, notified := c.notified + 1, pending := [],
           done := c.done ++ c.pending.map (fun p => (p.2, .err)) }

def Cl.step (c : Cl) : Ev → Cl
  | .request id => c.onRequest id
  | .response s t z => c.onResponse s t z
  | .transportErr => c.onErr

def Cl.run (c : Cl) : List Ev → Cl
  | [] => c
  | e :: es => (c.step e).run es

end Jiva.Rpc
