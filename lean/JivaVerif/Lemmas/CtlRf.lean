import JivaVerif.Lemmas.CtlAdd
/-! No request changes the configured replication factor (`Ctl.rf`): every primitive is a record update of other
    fields (or a frame step), and `.1.rf` is pushed through the `if`s of the requests; those that branch on a `match`
    are taken by their ways out (`canAdd_rf`, `startOne_cases`, `stepVerify_cases`). -/
namespace Jiva
namespace Ctl

theorem foldl_rf {α : Type} (f : Ctl → α → Ctl) (hf : ∀ c x, (f c x).rf = c.rf) (l : List α) (c : Ctl) :
    (l.foldl f c).rf = c.rf :=
  List.foldlRecOn l f (motive := fun d => d.rf = c.rf) rfl fun d hd x _ => (hf d x).trans hd

@[simp] theorem call_rf (c : Ctl) (i : Nat) (m : String) : (c.call i m).rf = c.rf := rfl
@[simp] theorem rebuild_rf (c : Ctl) : c.rebuild.rf = c.rf := rfl
@[simp] theorem updateVolStatus_rf (c : Ctl) : c.updateVolStatus.rf = c.rf := rfl
@[simp] theorem closeNew_rf (c : Ctl) (i : Nat) : (c.closeNew i).rf = c.rf := rfl
@[simp] theorem attach_rf (c : Ctl) (a : String) (i : Nat) : (c.attach a i).rf = c.rf := rfl
@[simp] theorem reserveId_rf (c : Ctl) : c.reserveId.rf = c.rf := rfl
@[simp] theorem clearLog_rf (c : Ctl) : c.clearLog.rf = c.rf := rfl
@[simp] theorem dropLeader_rf (c : Ctl) : c.dropLeader.rf = c.rf := rfl
@[simp] theorem startReset_rf (c : Ctl) : c.startReset.rf = c.rf := rfl
@[simp] theorem reserve_rf (c : Ctl) (s : Nat) : (c.reserve s).rf = c.rf := rfl

@[simp] theorem foldl_call_rf {α : Type} (l : List α) (f : α → Nat) (m : String) (c : Ctl) :
    (l.foldl (fun c b => c.call (f b) m) c).rf = c.rf := (frame_calls c l f m).rf

@[simp] theorem readCalls_rf (c : Ctl) (t : List (String × Out)) : (c.readCalls t).rf = c.rf :=
  (frame_readCalls c t).rf

@[simp] theorem adoptSize_rf (c : Ctl) (s : Nat) : (c.adoptSize s).rf = c.rf := (frame_adoptSize c s).rf

@[simp] theorem startFront_rf (c : Ctl) : c.startFront.rf = c.rf := (frame_startFront c).rf

@[simp] theorem signalReplica_rf (c : Ctl) (ok : Bool) : (c.signalReplica ok).1.rf = c.rf :=
  (frame_signalReplica c ok).rf

@[simp] theorem electAndSignal_rf (c : Ctl) (r : Reg) (so : Bool) (el : String) :
    (c.electAndSignal r so el).1.rf = c.rf := (frame_electAndSignal c r so el).rf

@[simp] theorem stepRegister_rf (c : Ctl) (r : Reg) (so al : Bool) (el : String) :
    (c.stepRegister r so al el).1.rf = c.rf := (frame_stepRegister c r so al el).rf

@[simp] theorem setModeCore_rf (c : Ctl) (a : String) (m : CMode) : (c.setModeCore a m).rf = c.rf := by
  unfold setModeCore
  exact iteInduction (motive := fun d : Ctl => d.rf = c.rf) (fun _ => by cases c.backendOf a <;> rfl) fun _ => rfl

@[simp] theorem setMode_rf (c : Ctl) (a : String) (m : CMode) : (c.setMode a m).rf = c.rf := by
  simp only [setMode, apply_ite Ctl.rf, updateVolStatus_rf, setModeCore_rf, ite_self]

@[simp] theorem foldl_setMode_rf (l : List String) (m : CMode) (c : Ctl) :
    (l.foldl (fun c a => c.setMode a m) c).rf = c.rf := foldl_rf _ (fun _ _ => setMode_rf ..) l c

@[simp] theorem handleError_rf (c : Ctl) (errs : List String) : (c.handleError errs).1.rf = c.rf := by
  simp only [handleError, apply_ite Prod.fst, apply_ite Ctl.rf, foldl_setMode_rf, ite_self]

@[simp] theorem removeAll_rf (errs : List String) (c : Ctl) : (c.removeAll errs).rf = c.rf :=
  foldl_rf _ (fun _ _ => removeReplica_rf ..) errs c

@[simp] theorem ioFail_rf (c : Ctl) (errs : List String) : (c.ioFail errs).1.rf = c.rf := by
  simp only [ioFail, removeAll_rf, handleError_rf]

@[simp] theorem stepFanOut_rf (c : Ctl) (m : String) (f : List String) : (c.stepFanOut m f).1.rf = c.rf := by
  simp only [stepFanOut, apply_ite Prod.fst, apply_ite Ctl.rf, ioFail_rf, foldl_call_rf, ite_self]

@[simp] theorem stepSync_rf (c : Ctl) (m : String) (f : List String) : (c.stepSync m f).1.rf = c.rf := by
  simp only [stepSync, apply_ite Prod.fst, apply_ite Ctl.rf, stepFanOut_rf, ite_self]

@[simp] theorem stepWrite_rf (c : Ctl) (off len : Nat) (f : List String) (t : List (String × Out)) :
    (c.stepWrite off len f t).1.rf = c.rf := by
  simp only [stepWrite, apply_ite Prod.fst, apply_ite Ctl.rf, stepFanOut_rf, ioFail_rf, readCalls_rf, ite_self]

@[simp] theorem stepRead_rf (c : Ctl) (off len : Nat) (t : List (String × Out)) :
    (c.stepRead off len t).1.rf = c.rf := by
  simp only [stepRead, apply_ite Prod.fst, apply_ite Ctl.rf, ioFail_rf, readCalls_rf, ite_self]

@[simp] theorem stepSnapshot_rf (c : Ctl) (ex : Option Bool) (f : List String) :
    (c.stepSnapshot ex f).1.rf = c.rf := by
  unfold stepSnapshot
  split
  · rfl
  · split <;> simp only [apply_ite Prod.fst, apply_ite Ctl.rf, handleError_rf, foldl_call_rf, ite_self]

@[simp] theorem stepResize_rf (c : Ctl) (sz : Nat) (f : List String) : (c.stepResize sz f).1.rf = c.rf := by
  simp only [stepResize, apply_ite Prod.fst, apply_ite Ctl.rf, handleError_rf, foldl_call_rf, ite_self]

@[simp] theorem stepMon_rf (c : Ctl) (a : String) (e : Bool) : (c.stepMon a e).1.rf = c.rf := by
  simp only [stepMon, removeReplica_rf, apply_ite Ctl.rf, setMode_rf, ite_self]

@[simp] theorem stepVerify_rf (c : Ctl) (a : String) (rwc woc : Option (List String)) (ckp : Option String)
    (rev : Option Nat) (o1 o2 : Bool) (ck : CkEnv) : (c.stepVerify a rwc woc ckp rev o1 o2 ck).1.rf = c.rf := by
  rcases stepVerify_cases c a rwc woc ckp rev o1 o2 ck with ⟨d, _, f, e, _⟩ | ⟨d, f, e, _⟩ <;>
    simp only [e, updateCheckpoint_rf, updateVolStatus_rf, setMode_rf, f.rf]

@[simp] theorem startOne_rf (c : Ctl) (e : StartEnv) : (c.startOne e).1.rf = c.rf := by
  rcases startOne_cases c e with ⟨d, f | f, h⟩ | ⟨d, d', f, f', _, _, h | ⟨_, _, h⟩⟩ <;> simp only [h]
  · exact f.rf
  · exact f.rf
  · rw [removeReplica_rf, f'.rf]
    exact f.rf
  · rw [setMode_rf, f'.rf]
    exact f.rf

@[simp] theorem startLoop_rf (es : List StartEnv) (c : Ctl) : (c.startLoop es).1.rf = c.rf := by
  induction es generalizing c with
  | nil => rfl
  | cons e es ih => simp only [startLoop, apply_ite Prod.fst, apply_ite Ctl.rf, ih, startOne_rf, ite_self]

@[simp] theorem stepStart_rf (c : Ctl) (es : List StartEnv) (ck : CkEnv) : (c.stepStart es ck).1.rf = c.rf := by
  unfold stepStart
  split
  · rfl
  · simp only [apply_ite Prod.fst, apply_ite Ctl.rf, startFront_rf, updateCheckpoint_rf, updateVolStatus_rf, foldl_setMode_rf,
      startLoop_rf, startReset_rf, ite_self]

@[simp] theorem attachNew_rf (c : Ctl) (a : String) (i : Nat) (sf : List String) (n s : Bool) (ck : CkEnv) :
    (attachNew c a i sf n s ck).1.rf = c.rf := by
  simp only [attachNew, apply_ite Prod.fst, apply_ite Ctl.rf, closeNew_rf, call_rf, updateCheckpoint_rf, updateVolStatus_rf,
    attach_rf, foldl_call_rf, ite_self]

@[simp] theorem stepAddPre_rf (c : Ctl) (a : String) (tk : Option Bool) : (c.stepAddPre a tk).1.rf = c.rf := by
  unfold stepAddPre
  split
  · rfl
  · rename_i c1 e
    simp only [apply_ite Prod.fst, canAdd_rf c a tk c1 e, ite_self]

@[simp] theorem stepAddPost_rf (c : Ctl) (a : String) (tk : Option Bool) (cok : Bool) (sf : List String)
    (n s : Bool) (ck : CkEnv) : (c.stepAddPost a tk cok sf n s ck).1.rf = c.rf := by
  unfold stepAddPost
  cases h : c.canAdd a tk <;>
    simp only [apply_ite Prod.fst, apply_ite Ctl.rf, closeNew_rf, attachNew_rf, reserveId_rf, ite_self]
  simp only [canAdd_rf _ _ _ _ h, ite_self]

@[simp] theorem stepAdd_rf (c : Ctl) (a : String) (tk : Option Bool) (cok : Bool) (sf : List String)
    (n s : Bool) (ck : CkEnv) : (c.stepAdd a tk cok sf n s ck).1.rf = c.rf := by
  simp only [stepAdd, apply_ite Prod.fst, apply_ite Ctl.rf, stepAddPost_rf, stepAddPre_rf, ite_self]

theorem step_rf (c : Ctl) (op : CtlOp) : (c.step op).1.rf = c.rf := by
  cases op <;>
    simp only [step, apply_ite Prod.fst, apply_ite Ctl.rf, stepRegister_rf, stepStart_rf, stepAdd_rf, stepAddPre_rf,
      stepAddPost_rf, removeReplica_rf, setMode_rf, stepVerify_rf, stepWrite_rf, stepSync_rf, stepRead_rf,
      stepSnapshot_rf, stepResize_rf, stepMon_rf, clearLog_rf, ite_self]

theorem run_rf (ops : List CtlOp) : ∀ c : Ctl, (c.run ops).rf = c.rf := by
  induction ops with
  | nil => intro c; rfl
  | cons op ops ih => intro c; exact (ih _).trans (step_rf c op)

end Ctl
end Jiva
