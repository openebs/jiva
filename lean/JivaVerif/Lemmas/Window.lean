import JivaVerif.Lemmas.Write
/-! The scan of `preload`, and `UpdateLUNMap` with foreground writes between its scan and its merge (`lunmapAfter`): the
merged map is sound and the requests it queues are safe.  `UpdateLUNMap` proper and `preload` on an empty map are
special cases. -/
namespace Jiva
namespace DD
variable {β : Type}

theorem preloadBlock_succ (d : DD β) (b i : Nat) : preloadBlock d b (i + 1) =
    if (d.files (i + 1)).alloc b then
      (i + 1, if (preloadBlock d b i).1 ≠ 0 ∧ lastMark d.marks (i + 1) < (preloadBlock d b i).1 ∧ d.punch
              then (preloadBlock d b i).2 ++ [((preloadBlock d b i).1, b)] else (preloadBlock d b i).2)
    else preloadBlock d b i := rfl

theorem preloadBlock_owner (d : DD β) (b : Nat) : ∀ i,
    (preloadBlock d b i).1 ≤ i ∧
    ((preloadBlock d b i).1 ≠ 0 → (d.files (preloadBlock d b i).1).alloc b = true) ∧
    ∀ j, (preloadBlock d b i).1 < j → j ≤ i → (d.files j).alloc b = false := by
  intro i
  induction i with
  | zero => exact ⟨Nat.le_refl _, fun h => absurd rfl h, fun j h1 h2 => by omega⟩
  | succ i ih =>
    obtain ⟨i1, i2, i3⟩ := ih
    rw [preloadBlock_succ]
    by_cases a : (d.files (i + 1)).alloc b = true
    · rw [if_pos a]
      exact ⟨Nat.le_refl _, fun _ => a, fun j h1 h2 => by omega⟩
    · rw [if_neg a]
      refine ⟨Nat.le_succ_of_le i1, i2, fun j h1 h2 => ?_⟩
      by_cases e : j = i + 1
      · exact e ▸ Bool.eq_false_iff.mpr a
      · exact i3 j h1 (by omega)

theorem preloadBlock_locOk (d : DD β) (h : WF d) (b : Nat) (hne : (preloadBlock d b d.top).1 ≠ 0) :
    LocOk d b (preloadBlock d b d.top).1 :=
  have ⟨s1, s2, s3⟩ := preloadBlock_owner d b d.top
  ⟨s1, fun j hj => if c : j ≤ d.top then s3 j hj c else h.emptyAbove j (Nat.lt_of_not_le c) b, Or.inl (s2 hne)⟩

theorem mem_preloadBlock (d : DD β) (b : Nat) : ∀ i p, p ∈ (preloadBlock d b i).2 →
    p.2 = b ∧ ∃ hh, p.1 < hh ∧ hh ≤ i ∧ (d.files hh).alloc b = true ∧ lastMark d.marks hh < p.1 := by
  intro i
  induction i with
  | zero => intro p hp; cases hp
  | succ i ih =>
    intro p hp
    have older := fun hp => (ih p hp).imp_right (Exists.imp fun _ => And.imp_right (And.imp_left Nat.le_succ_of_le))
    rw [preloadBlock_succ] at hp
    by_cases a : (d.files (i + 1)).alloc b = true
    · rw [if_pos a] at hp
      by_cases c : (preloadBlock d b i).1 ≠ 0 ∧ lastMark d.marks (i + 1) < (preloadBlock d b i).1 ∧ d.punch
      · rw [if_pos c] at hp
        rcases List.mem_append.mp hp with hp | hp
        · exact older hp
        · cases List.mem_singleton.mp hp
          exact ⟨rfl, i + 1, Nat.lt_succ_of_le (preloadBlock_owner d b i).1, Nat.le_refl _, a, c.2.1⟩
      · rw [if_neg c] at hp
        exact older hp
    · rw [if_neg a] at hp
      exact older hp

theorem mem_preloadHoles (d : DD β) : ∀ n p, p ∈ preloadHoles d n → p ∈ (preloadBlock d p.2 d.top).2 := by
  intro n
  induction n with
  | zero => intro p hp; cases hp
  | succ n ih =>
    intro p hp
    rw [preloadHoles] at hp
    rcases List.mem_append.mp hp with hp | hp
    · exact ih p hp
    · rwa [(mem_preloadBlock d n d.top p hp).1]

/-- with no marker from `f` up to `hh` (`hlm`) there is no retained user snapshot in `[f, hh)`: each has a marker at
    or right above it -/
theorem ur_above_holder (d : DD β) (h : WF d) (f hh u : Nat) (hf : f ≤ u) (hu : d.ur u = true)
    (hlm : lastMark d.marks hh < f) : hh ≤ u := by
  refine Nat.le_of_not_lt fun hlt => ?_
  rcases h.markCover u hu with m | m
  · have := lastMark_ge d.marks hh u (h.urPos u hu) (Nat.le_of_lt hlt) m
    omega
  · have := lastMark_ge d.marks hh (u + 1) (Nat.le_add_left 1 u) hlt m
    omega

theorem preloadHoles_shadowed (d : DD β) (h : WF d) (n : Nat) (p : Nat × Nat) (hp : p ∈ preloadHoles d n) :
    Shadowed d p.1 p.2 := by
  have ⟨_, hh, q1, q2, q3, q4⟩ := mem_preloadBlock d p.2 d.top p (mem_preloadHoles d n p hp)
  refine ⟨Nat.lt_of_lt_of_le q1 q2, fun u hu hfu => ⟨hh, q1, ?_, q3⟩⟩
  rcases hu with hu | hu
  · exact ur_above_holder d h p.1 hh u hfu hu q4
  · exact hu ▸ q2

theorem preloadBlock_congr (d e : DD β) (hf : e.files = d.files) (hm : e.marks = d.marks) (hp : e.punch = d.punch)
    (b : Nat) : ∀ i, preloadBlock e b i = preloadBlock d b i := by
  intro i
  induction i with
  | zero => rfl
  | succ i ih => simp only [preloadBlock, ih, hf, hm, hp]

variable [Inhabited β] in -- part of the statement, though nothing in it needs a default value
theorem preloadHoles_congr (d e : DD β) (hf : e.files = d.files) (hm : e.marks = d.marks) (hp : e.punch = d.punch)
    (ht : e.top = d.top) : ∀ n, preloadHoles e n = preloadHoles d n := by
  intro n
  induction n with
  | zero => rfl
  | succ n ih => simp only [preloadHoles, ih, preloadBlock_congr d e hf hm hp, ht]

/-- the guard of the merge: a copy of the block below the live entry may go when there is no marker, hence no
    retained user snapshot, from it upwards; the entry itself is a holder above it -/
theorem holder_below_loc_shadowed (d : DD β) (h : WF d) (f b : Nat) (hf : (d.files f).alloc b = true)
    (hlt : f < d.loc b) (hm : lastMark d.marks d.top < f) : Shadowed d f b := by
  have ⟨l1, _, l3⟩ := h.locOk b (Nat.ne_of_gt (Nat.zero_lt_of_lt hlt))
  refine ⟨Nat.lt_of_lt_of_le hlt l1, fun u hu hfu => ?_⟩
  rcases hu with hu | hu
  · exact absurd (h.urLt u hu) (Nat.not_lt.mpr (ur_above_holder d h f d.top u hfu hu hm))
  · refine ⟨d.loc b, hlt, hu ▸ l1, l3.resolve_right fun l3 => ?_⟩
    rw [l3 f hlt] at hf; cases hf

/-- the state `d0` the extents were scanned in and the state `d` in which the merge runs: only the head file changed,
    and every block it gained is known to the live location map (foreground writes set `location[b]` to the head) -/
structure Later (d0 d : DD β) : Prop where
  bs    : d.bs = d0.bs
  nb    : d.nb = d0.nb
  top   : d.top = d0.top
  marks : d.marks = d0.marks
  uc    : d.uc = d0.uc
  rm    : d.rm = d0.rm
  punch : d.punch = d0.punch
  below : ∀ i, i ≠ d0.top → d.files i = d0.files i
  grow  : ∀ b, (d0.files d0.top).alloc b = true → (d.files d0.top).alloc b = true
  known : ∀ b, (d.files d0.top).alloc b = true → (d0.files d0.top).alloc b = true ∨ d.loc b = d0.top

theorem Later.refl (d : DD β) : Later d d :=
  ⟨rfl, rfl, rfl, rfl, rfl, rfl, rfl, fun _ _ => rfl, fun _ h => h, fun _ h => Or.inl h⟩

theorem Later.holds {d0 d : DD β} (l : Later d0 d) (j b : Nat) (h : (d0.files j).alloc b = true) :
    (d.files j).alloc b = true := by
  by_cases c : j = d0.top
  · subst c; exact l.grow b h
  · rw [l.below j c]; exact h

theorem Later.ur {d0 d : DD β} (l : Later d0 d) (u : Nat) : d.ur u = d0.ur u := ur_congr l.uc l.rm u

/-- a block the live map does not know has not been written since the scan -/
theorem Later.alloc_eq {d0 d : DD β} (l : Later d0 d) (ht : 1 ≤ d0.top) {b : Nat} (hb : d.loc b = 0) (j : Nat) :
    (d.files j).alloc b = (d0.files j).alloc b := by
  by_cases c : j = d0.top
  · subst c
    cases ha : (d0.files d0.top).alloc b with
    | true => exact l.grow b ha
    | false =>
      refine Bool.eq_false_iff.mpr fun k => ?_
      rcases l.known b k with k | k
      · rw [ha] at k; cases k
      · omega
  · rw [l.below j c]

theorem Later.locOk {d0 d : DD β} (l : Later d0 d) (ht : 1 ≤ d0.top) {b i : Nat} (hb : d.loc b = 0)
    (h : LocOk d0 b i) : LocOk d b i := by
  unfold LocOk at h ⊢
  simp only [l.alloc_eq ht hb, l.top]
  exact h

/-- **C07 (a write inside `UpdateLUNMap`'s window).** Whatever foreground writes landed between the
    scan and the merge, the merged location map is sound and every queued punch request is safe. -/
theorem wf_lunmapAfter (d0 d : DD β) (h0 : WF d0) (h : WF d) (l : Later d0 d) : WF (d0.lunmapAfter d) := by
  refine h.relocate _ _ (fun b hb => ?_) (fun b hb => ?_) (fun p hp => ?_)
  · by_cases c : d.loc b = 0
    · -- an unknown entry becomes the scanned owner: sound when scanned, and the block has not been written since
      simp only [if_neg (not_not_intro c)] at hb ⊢
      by_cases cb : b < d0.nb
      · rw [if_pos cb] at hb ⊢
        exact l.locOk h0.top_pos c (preloadBlock_locOk d0 h0 b hb)
      · exact absurd (if_neg cb) hb
    · simp only [if_pos c]
      exact h.locOk b c
  · have cb : ¬ b < d0.nb := l.nb ▸ Nat.not_lt.mpr hb
    simp only [if_neg (not_not_intro (h.locOut b hb)), if_neg cb]
  · simp only [List.mem_append, List.mem_filterMap, List.mem_range] at hp
    rcases hp with (hp | hp) | ⟨b, hb, he⟩
    · exact Or.inl hp
    · -- queued by the scan: safe when scanned, and a holder stays a holder
      exact Or.inr ((preloadHoles_shadowed d0 h0 d0.nb p hp).mono (Nat.le_of_eq l.top.symm)
        (fun u hu => Or.inl (l.ur u ▸ hu)) fun j => l.holds j p.2)
    · -- queued by the merge: the scanned owner still holds the block, the live entry points above it
      rw [← l.nb, if_pos hb] at he
      split at he
      case isFalse => cases he
      rename_i hc
      cases he
      have hown := l.holds _ b ((preloadBlock_owner d0 b d0.top).2.1 hc.1)
      exact Or.inr (holder_below_loc_shadowed d h _ b hown hc.2.1 hc.2.2.1)

/-- a whole-block foreground write (what a rebuilding replica receives, the controller widening every
    request while it is attached) keeps the relation to the scanned state -/
theorem later_fullWrite (d0 d : DD β) (l : Later d0 d) (s n : Nat) (buf : Nat → β) :
    Later d0 (d.fullWrite s n buf) := by
  have ht : d.top = d0.top := l.top
  have hloc : ∀ b, (d.fullWrite s n buf).loc b = if s ≤ b ∧ b < s + n then d.top else d.loc b := fun _ => rfl
  refine ⟨l.bs, l.nb, l.top, l.marks, l.uc, l.rm, l.punch, fun i hi => ?_, fun b hb => ?_, fun b hb => ?_⟩
  · exact (if_neg (ht ▸ hi)).trans (l.below i hi)
  · rw [fullWrite_alloc]
    split
    · rfl
    · exact l.grow b hb
  · rw [fullWrite_alloc] at hb
    rw [hloc]
    by_cases c : s ≤ b ∧ b < s + n
    · exact Or.inr ((if_pos c).trans ht)
    · rw [if_neg fun a => c a.2] at hb
      rw [if_neg c]
      exact l.known b hb

theorem wf_lunmap (d : DD β) (h : WF d) : WF d.lunmap := wf_lunmapAfter d d h h (Later.refl d)

/-- on an empty location map the merge finds nothing to shadow -/
theorem lunmap_of_loc_zero (d : DD β) (hl : ∀ b, d.loc b = 0) : d.lunmap = d.preload := by
  simp [lunmap, preload, hl]

theorem wf_preload (d : DD β) (h : WF d) (hl : ∀ b, d.loc b = 0) : WF d.preload :=
  lunmap_of_loc_zero d hl ▸ wf_lunmap d h

variable [Inhabited β]

theorem view_lunmapAfter (d0 d : DD β) (i u : Nat) : (d0.lunmapAfter d).view i u = d.view i u := rfl

/-- what `UpdateLUNMap` is for: afterwards every unit of the volume reads the live view, whatever was written
    between its scan (in `d0`) and its merge (in `d`) -/
theorem readUnit_lunmapAfter (d0 d : DD β) (h0 : WF d0) (h : WF d) (l : Later d0 d) (u : Nat)
    (hu : u / d.bs < d.nb) : (d0.lunmapAfter d).readUnit u = d.live u :=
  readUnit_eq_live _ (wf_lunmapAfter d0 d h0 h l) u hu

theorem view_lunmap (d : DD β) (i u : Nat) : d.lunmap.view i u = d.view i u := rfl

theorem readUnit_lunmap (d : DD β) (h : WF d) (u : Nat) (hu : u / d.bs < d.nb) : d.lunmap.readUnit u = d.live u :=
  readUnit_lunmapAfter d d h h (Later.refl d) u hu

end DD
end Jiva
