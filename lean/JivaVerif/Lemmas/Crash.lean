import JivaVerif.Model.Crash
/-!
# The replica directory under process death

What every `Call` does to every key (`get_apply_*`), so that no proof unfolds `apply`.  The commit point
(`recovers_commit`): the calls before it keep what the old chain is read from, it makes the new chain recoverable,
the calls after it keep what the new chain is read from.
-/
namespace Jiva.Crash

theorem take_past {α : Type} (a : List α) (c : α) (b : List α) (m : Nat) :
    (a ++ c :: b).take (a.length + 1 + m) = a ++ c :: b.take m := by
  rw [Nat.add_assoc, List.take_length_add_append, Nat.add_comm, List.take_succ_cons]

theorem get_cons (p : Key × Ent) (fs : FS) (k : Key) : get (p :: fs) k = if p.1 = k then some p.2 else get fs k := rfl

theorem get_del (fs : FS) (k k' : Key) : get (del fs k) k' = if k' = k then none else get fs k' := by
  induction fs with
  | nil => exact (ite_self none).symm
  | cons p rest ih =>
    rw [del, List.filter_cons, apply_ite (get · k'), ← del]
    simp only [get_cons, ih]
    by_cases hk : k' = k
    · by_cases hp : p.1 = k <;> simp [hk, hp]
    · by_cases hp : p.1 = k
      · simp [hk, hp, Ne.symm hk]
      · simp [hk, hp]

theorem get_del_same (fs : FS) (k : Key) : get (del fs k) k = none := by
  rw [get_del, if_pos rfl]

theorem get_put (fs : FS) (k : Key) (e : Ent) (k' : Key) : get (put fs k e) k' = if k' = k then some e else get fs k' := by
  rw [put, get_cons, get_del]
  by_cases hk : k' = k
  · simp only [if_pos hk, if_pos hk.symm]
  · simp only [if_neg hk, if_neg (Ne.symm hk)]

@[simp] theorem get_apply_create (fs : FS) (a : Key) (e : Ent) (k : Key) :
    get (apply fs (.create a e)) k = if k = a then (get fs a).or (some e) else get fs k := by
  rw [apply]
  by_cases hk : k = a <;> cases h : get fs a <;> simp [get_put, hk, h]

@[simp] theorem get_apply_write (fs : FS) (a : Key) (e : Ent) (k : Key) :
    get (apply fs (.write a e)) k = if k = a then (get fs a).map fun _ => e else get fs k := by
  rw [apply]
  by_cases hk : k = a <;> cases h : get fs a <;> simp [get_put, hk, h]

@[simp] theorem get_apply_rename (fs : FS) (a b k : Key) :
    get (apply fs (.rename a b)) k = if k = b then (get fs a).or (get fs b) else if k = a then none else get fs k := by
  rw [apply]
  by_cases hb : k = b <;> by_cases ha : k = a <;> cases h : get fs a <;> simp_all [get_put, get_del]

@[simp] theorem get_apply_link (fs : FS) (a b k : Key) :
    get (apply fs (.link a b)) k = if k = b then (get fs b).or (get fs a) else get fs k := by
  rw [apply]
  by_cases hk : k = b <;> cases ha : get fs a <;> cases hb : get fs b <;> simp [get_put, hk, hb]

@[simp] theorem get_apply_unlink (fs : FS) (a k : Key) : get (apply fs (.unlink a)) k = if k = a then none else get fs k :=
  get_del fs a k

@[simp] theorem get_apply_fsyncDir (fs : FS) (k : Key) : get (apply fs .fsyncDir) k = get fs k := rfl
@[simp] theorem get_apply_truncate (fs : FS) (a k : Key) : get (apply fs (.truncate a)) k = get fs k := rfl

theorem get_apply_untouched (fs : FS) (c : Call) (k : Key) (h : k ∉ touched c) : get (apply fs c) k = get fs k := by
  cases c <;> simp_all [touched]

@[simp] theorem run_cons (fs : FS) (c : Call) (cs : List Call) : run fs (c :: cs) = run (apply fs c) cs := rfl
@[simp] theorem run_nil (fs : FS) : run fs [] = fs := rfl

@[simp] theorem run_append (fs : FS) (a b : List Call) : run fs (a ++ b) = run (run fs a) b := List.foldl_append

/-- the calls `cs` write only keys in `P` -/
def Within (P : Key → Prop) (cs : List Call) : Prop := ∀ c ∈ cs, ∀ k ∈ touched c, P k

@[simp] theorem within_nil (P : Key → Prop) : Within P [] ↔ True := by simp [Within]

@[simp] theorem within_cons (P : Key → Prop) (c : Call) (cs : List Call) :
    Within P (c :: cs) ↔ (∀ k ∈ touched c, P k) ∧ Within P cs := by simp [Within]

@[simp] theorem within_append (P : Key → Prop) (a b : List Call) : Within P (a ++ b) ↔ Within P a ∧ Within P b := by
  simp [Within, List.mem_append, or_imp, forall_and]

theorem Within.take {P : Key → Prop} {a : List Call} (ha : Within P a) (n : Nat) : Within P (a.take n) :=
  fun c hc => ha c (List.mem_of_mem_take hc)

theorem get_run_within {P : Key → Prop} : ∀ {cs : List Call} (fs : FS) (k : Key), Within P cs → ¬ P k →
    get (run fs cs) k = get fs k
  | [], _, _, _, _ => rfl
  | c :: cs, fs, k, h, hk => by
    rw [run_cons, get_run_within _ k (fun c' hc' => h c' (List.mem_cons_of_mem _ hc')) hk]
    exact get_apply_untouched fs c k fun hm => hk (h c List.mem_cons_self k hm)

/-- every prefix of `cs`, run from `fs`, leaves the keys in `P` as they are -/
def Keeps (P : Key → Prop) (fs : FS) (cs : List Call) : Prop :=
  ∀ n k, P k → get (run fs (cs.take n)) k = get fs k

theorem Keeps.nil (P : Key → Prop) (fs : FS) : Keeps P fs [] :=
  fun _ _ _ => by rw [List.take_nil]; rfl

theorem Keeps.cons {P : Key → Prop} {fs : FS} {c : Call} {cs : List Call} (hc : ∀ k, P k → get (apply fs c) k = get fs k)
    (h : Keeps P (apply fs c) cs) : Keeps P fs (c :: cs)
  | 0, _, _ => rfl
  | n + 1, k, hk => (h n k hk).trans (hc k hk)

theorem Keeps.append {P : Key → Prop} {fs : FS} {a b : List Call} (ha : Keeps P fs a) (hb : Keeps P (run fs a) b) :
    Keeps P fs (a ++ b) := by
  induction a generalizing fs with
  | nil => exact hb
  | cons c a ih => exact .cons (ha 1) (ih (fun n k hk => (ha (n + 1) k hk).trans (ha 1 k hk).symm) hb)

theorem keeps_within {P Q : Key → Prop} {cs : List Call} (fs : FS) (h : Within Q cs)
    (hP : ∀ k, P k → ¬ Q k) : Keeps P fs cs :=
  fun n k hk => get_run_within fs k (h.take n) (hP k hk)

/-- the first half of `encodeToFile`: the complete temp file -/
def stage (tmp : Key) (e : Ent) : List Call := [.create tmp .incomplete, .write tmp e]

theorem encode_eq (tmp dst : Key) (e : Ent) : encode tmp dst e = stage tmp e ++ [.rename tmp dst, .fsyncDir] := rfl

@[simp] theorem get_run_stage (fs : FS) (tmp : Key) (e : Ent) (k : Key) :
    get (run fs (stage tmp e)) k = if k = tmp then some e else get fs k := by
  simp only [stage, run_cons, run_nil, get_apply_write, get_apply_create]
  by_cases hk : k = tmp
  · subst hk; cases get fs k <;> simp
  · simp [hk]

@[simp] theorem get_run_encode (fs : FS) (tmp dst : Key) (e : Ent) (k : Key) :
    get (run fs (encode tmp dst e)) k = if k = dst then some e else if k = tmp then none else get fs k := by
  rw [encode_eq, run_append]
  simp only [run_cons, run_nil, get_apply_fsyncDir, get_apply_rename, get_run_stage, if_pos, Option.some_or]
  by_cases h : k = tmp <;> simp only [h, if_true, if_false]

@[simp] theorem within_stage (P : Key → Prop) (tmp : Key) (e : Ent) : Within P (stage tmp e) ↔ P tmp := by
  simp [stage, touched]

@[simp] theorem within_encode (P : Key → Prop) (tmp dst : Key) (e : Ent) : Within P (encode tmp dst e) ↔ P tmp ∧ P dst := by
  simp [encode, touched]

/-- `rmDisk(name)` -/
def rmDisk (name : String) : List Call := [.unlink (.img name), .unlink (.dmeta name), .fsyncDir]

@[simp] theorem within_rmDisk (P : Key → Prop) (name : String) : Within P (rmDisk name) ↔ P (.img name) ∧ P (.dmeta name) := by
  simp [rmDisk, touched]

theorem get_run_encode_take (fs : FS) (tmp dst : Key) (e : Ent) (n : Nat) :
    (∀ k, k ≠ tmp → get (run fs ((encode tmp dst e).take n)) k = get fs k) ∨
    (∀ k, k ≠ tmp → get (run fs ((encode tmp dst e).take n)) k = get (run fs (encode tmp dst e)) k) := by
  by_cases hn : n ≤ (stage tmp e).length
  · refine .inl fun k hk => ?_
    rw [encode_eq, List.take_append_of_le_length hn]
    exact get_run_within (P := (· = tmp)) fs k (Within.take (by simp) n) hk
  · obtain ⟨m, rfl⟩ : ∃ m, n = (stage tmp e).length + 1 + m := ⟨n - (stage tmp e).length - 1, by omega⟩
    refine .inr fun k _ => ?_
    rw [encode_eq, take_past]
    simp only [run_append, run_cons, run_nil, get_apply_fsyncDir]
    exact get_run_within (P := fun _ => False) _ k (Within.take (by simp [touched]) m) id

theorem keeps_encode_same {P : Key → Prop} (fs : FS) (tmp dst : Key) (e : Ent)
    (h : get fs dst = some e) (htmp : ¬ P tmp) : Keeps P fs (encode tmp dst e) := by
  intro n k hk
  have hk' : k ≠ tmp := fun e => htmp (e ▸ hk)
  rcases get_run_encode_take fs tmp dst e n with h' | h'
  · exact h' k hk'
  · rw [h' k hk', get_run_encode, if_neg hk']
    by_cases hd : k = dst
    · rw [if_pos hd, hd, h]
    · rw [if_neg hd]

/-- the keys a chain is read from -/
def Uses (c : List (String × Nat)) (k : Key) : Prop := k = .vol ∨ ∃ x ∈ c, k = .img x.1 ∨ k = .dmeta x.1

theorem isChain_congr (fs fs' : FS) (d : String) (c : List (String × Nat)) (h : IsChain fs d c)
    (e : ∀ x ∈ c, get fs' (.img x.1) = get fs (.img x.1) ∧ get fs' (.dmeta x.1) = get fs (.dmeta x.1)) :
    IsChain fs' d c := by
  induction h with
  | base d i h1 h2 =>
    have := e (d, i) (List.mem_singleton.mpr rfl)
    exact IsChain.base d i (this.1.trans h1) (this.2.trans h2)
  | step d p i c h1 h2 h3 _ ih =>
    have := e (d, i) (List.mem_cons_self)
    exact IsChain.step d p i c (this.1.trans h1) (this.2.trans h2) h3
      (ih (fun x hx => e x (List.mem_cons_of_mem _ hx)))

theorem recovers_congr (fs fs' : FS) (c : List (String × Nat)) (h : Recovers fs c)
    (e : ∀ k, Uses c k → get fs' k = get fs k) : Recovers fs' c := by
  obtain ⟨hd, hv, hc⟩ := h
  exact ⟨hd, (e .vol (Or.inl rfl)).trans hv, isChain_congr fs _ hd c hc fun x hx =>
    ⟨e _ (Or.inr ⟨x, hx, Or.inl rfl⟩), e _ (Or.inr ⟨x, hx, Or.inr rfl⟩)⟩⟩

/-- a temp file, or a file of one of the disks `ds`: what an operation may write without being seen -/
def Scratch (ds : List String) : Key → Prop
  | .img d | .dmeta d => d ∈ ds
  | .dmetaTmp _ | .volTmp => True
  | .vol => False

theorem not_scratch_of_uses {c : List (String × Nat)} {ds : List String} (h : ∀ x ∈ c, x.1 ∉ ds) (k : Key)
    (hk : Uses c k) : ¬ Scratch ds k := by
  rcases hk with rfl | ⟨x, hx, rfl | rfl⟩
  · exact id
  · exact h x hx
  · exact h x hx

theorem keeps_scratch {c : List (String × Nat)} {ds : List String} {cs : List Call} (fs : FS)
    (hw : Within (Scratch ds) cs) (hds : ∀ x ∈ c, x.1 ∉ ds) : Keeps (Uses c) fs cs :=
  keeps_within fs hw (not_scratch_of_uses hds)

theorem isChain_scratch {fs : FS} {d : String} {c : List (String × Nat)} {ds : List String} {cs : List Call}
    (h : IsChain fs d c) (hds : ∀ x ∈ c, x.1 ∉ ds) (hw : Within (Scratch ds) cs) : IsChain (run fs cs) d c :=
  isChain_congr fs _ d c h fun x hx => ⟨get_run_within fs _ hw (hds x hx), get_run_within fs _ hw (hds x hx)⟩

/-- `volume.meta` is the root: once it is rewritten to name `h`, the directory opens with the chain of `h` -/
theorem recovers_encode_vol {fs : FS} {h : String} {c : List (String × Nat)} (hc : IsChain fs h c) :
    Recovers (run fs (encode .volTmp .vol (.volume h))) c :=
  ⟨h, by simp, isChain_congr fs _ h c hc fun _ _ => ⟨by simp, by simp⟩⟩

theorem isChain_head {fs : FS} {h : String} {x : String × Nat} {c : List (String × Nat)}
    (hc : IsChain fs h (x :: c)) : x.1 = h := by
  cases hc <;> rfl

theorem isChain_tail {fs : FS} {d : String} {x y : String × Nat} {c : List (String × Nat)}
    (h : IsChain fs d (x :: y :: c)) : IsChain fs y.1 (y :: c) := by
  cases h with
  | step _ p _ _ _ _ _ hr => exact isChain_head hr ▸ hr

theorem isChain_suffix (fs : FS) : ∀ (top : List (String × Nat)) (h : String) (x : String × Nat)
    (c : List (String × Nat)), IsChain fs h (top ++ x :: c) → IsChain fs x.1 (x :: c)
  | [], _, _, _, hc => isChain_head hc ▸ hc
  | [_], _, _, _, hc => isChain_tail hc
  | _ :: y :: top, _, x, c, hc => isChain_suffix fs (y :: top) y.1 x c (isChain_tail hc)

theorem isChain_replace (fs fs' : FS) (top : List (String × Nat)) : ∀ (h : String) (x : String × Nat)
    (c c' : List (String × Nat)), IsChain fs h (top ++ x :: c) → IsChain fs' x.1 (x :: c') →
    (∀ y ∈ top, get fs' (.img y.1) = get fs (.img y.1) ∧ get fs' (.dmeta y.1) = get fs (.dmeta y.1)) →
    IsChain fs' h (top ++ x :: c') := by
  induction top with
  | nil => exact fun _ _ _ _ hc hn _ => isChain_head hc ▸ hn
  | cons y top ih =>
    intro h x c c' hc hn hag
    rw [List.cons_append] at hc
    generalize hl : top ++ x :: c = l at hc
    cases hc with
    | base _ _ _ _ => cases top <;> simp at hl
    | step _ p j _ h1 h2 h3 hrest =>
      subst hl
      have a := hag (h, j) List.mem_cons_self
      exact .step h p j _ (a.1.trans h1) (a.2.trans h2) h3
        (ih p x c c' hrest hn fun z hz => hag z (List.mem_cons_of_mem _ hz))

theorem isChain_img {fs : FS} {h : String} {c : List (String × Nat)} (hc : IsChain fs h c) :
    ∀ x ∈ c, get fs (.img x.1) = some (.data x.2) := by
  induction hc with
  | base d i h1 _ => exact List.forall_mem_singleton.mpr h1
  | step d p i c h1 _ _ _ ih => exact List.forall_mem_cons.mpr ⟨h1, ih⟩

theorem chainFrom_sound (fs : FS) (fuel : Nat) : ∀ (d : String) (c : List (String × Nat)),
    chainFrom fs fuel d = some c → IsChain fs d c := by
  induction fuel with
  | zero => exact fun _ _ h => nomatch h
  | succ fuel ih =>
    intro d c h
    unfold chainFrom at h
    split at h
    · next i p h1 h2 =>
      by_cases hp : p = ""
      · rw [if_pos hp] at h
        cases h
        exact .base d i h1 (hp ▸ h2)
      · rw [if_neg hp] at h
        obtain ⟨c', hc, rfl⟩ := Option.map_eq_some_iff.mp h
        exact .step d p i c' h1 h2 hp (ih p c' hc)
    · cases h

theorem recovers_commit (fs : FS) (pre post : List Call) (c : Call) (old new : List (String × Nat))
    (hold : Recovers fs old) (hpre : Keeps (Uses old) fs pre)
    (hnew : Recovers (apply (run fs pre) c) new) (hpost : Keeps (Uses new) (apply (run fs pre) c) post) (n : Nat) :
    (n ≤ pre.length → Recovers (run fs ((pre ++ c :: post).take n)) old) ∧
    (pre.length < n → Recovers (run fs ((pre ++ c :: post).take n)) new) := by
  refine ⟨fun hn => ?_, fun hn => ?_⟩
  · rw [List.take_append_of_le_length hn]; exact recovers_congr fs _ old hold (hpre n)
  · obtain ⟨m, rfl⟩ : ∃ m, n = pre.length + 1 + m := ⟨n - pre.length - 1, by omega⟩
    rw [take_past, run_append, run_cons]; exact recovers_congr _ _ new hnew (hpost m)

theorem or_of_split {p q : Prop} {n m : Nat} (h : (n ≤ m → p) ∧ (m < n → q)) : p ∨ q :=
  (Nat.lt_or_ge m n).elim (fun hn => .inr (h.2 hn)) fun hn => .inl (h.1 hn)

/-- The commit of every chain-changing operation is the rename inside an `encodeToFile`; the `+ 2` are the two
    calls of `stage` before it, which write the temp file, read by no chain. -/
theorem recovers_commit_encode (fs : FS) (pre post : List Call) (tmp dst : Key) (e : Ent) (old new : List (String × Nat))
    (hold : Recovers fs old) (hpre : Keeps (Uses old) fs pre) (htmp : ¬ Uses old tmp)
    (hnew : Recovers (run fs (pre ++ encode tmp dst e)) new)
    (hpost : Keeps (Uses new) (run fs (pre ++ encode tmp dst e)) post) (n : Nat) :
    (n ≤ pre.length + 2 → Recovers (run fs ((pre ++ encode tmp dst e ++ post).take n)) old) ∧
    (pre.length + 2 < n → Recovers (run fs ((pre ++ encode tmp dst e ++ post).take n)) new) := by
  have hstage : Keeps (Uses old) fs (pre ++ stage tmp e) :=
    hpre.append (keeps_within _ ((within_stage (· = tmp) tmp e).mpr rfl) fun k hk e => htmp (e ▸ hk))
  rw [encode_eq, ← List.append_assoc pre, run_append _ _ [_, _]] at hnew hpost
  rw [encode_eq, ← List.append_assoc pre, List.append_assoc _ [_, _],
    ← show (pre ++ stage tmp e).length = pre.length + 2 from List.length_append]
  exact recovers_commit fs (pre ++ stage tmp e) (.fsyncDir :: post) (.rename tmp dst) old new hold hstage hnew
    (.cons (c := .fsyncDir) (fun _ _ => rfl) hpost) n

end Jiva.Crash
