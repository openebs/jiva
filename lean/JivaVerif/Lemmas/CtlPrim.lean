import JivaVerif.Lemmas.CtlInv
import JivaVerif.Lemmas.ListAux
/-! What `setReplicaModeNoLock`, `RemoveReplicaNoLock` and `handleErrorNoLock` do to the replica list and to
    the I/O table, and that they keep the invariant. -/
namespace Jiva
namespace Ctl

theorem mem_backends_of_mem_replicas (c : Ctl) (h : CCore c) (r : String × CMode) (hr : r ∈ c.replicas) :
    ∃ b ∈ c.backends, key b = r := by
  rw [← h.agree] at hr
  exact List.mem_map.mp hr

theorem mem_replicas_of_mem_backends (c : Ctl) (h : CCore c) (b : Backend) (hb : b ∈ c.backends) :
    key b ∈ c.replicas := by
  rw [← h.agree]
  exact List.mem_map.mpr ⟨b, hb, rfl⟩

theorem backendOf_none {c : Ctl} (h : CCore c) {a : String} (hh : c.hasReplica a = false) : c.backendOf a = none := by
  refine List.find?_eq_none.mpr fun b hb hba => ?_
  have := List.any_eq_false.mp hh (key b) (mem_replicas_of_mem_backends c h b hb)
  exact this hba

theorem setModeCore_replicas (c : Ctl) (a : String) (m : CMode) :
    (c.setModeCore a m).replicas = c.replicas.map fun r => if r.1 = a ∧ r.2 ≠ .err then (r.1, m) else r := by
  unfold setModeCore
  by_cases hch : (c.replicas.any fun r => r.1 = a ∧ r.2 ≠ .err) = true
  · rw [if_pos hch]
    cases c.backendOf a <;> rfl
  · rw [if_neg hch]

theorem setMode_replicas (c : Ctl) (a : String) (m : CMode) :
    (c.setMode a m).replicas = c.replicas.map (fun r => if r.1 = a ∧ r.2 ≠ .err then (r.1, m) else r) := by
  unfold setMode
  cases hh : c.hasReplica a with
  | true => exact setModeCore_replicas c a m
  | false =>
    have hr : ∀ r ∈ c.replicas, ¬ (r.1 = a ∧ r.2 ≠ .err) := fun r hr hc =>
      List.any_eq_false.mp hh r hr (decide_eq_true hc.1)
    rw [List.map_congr_left fun r h => if_neg (hr r h), List.map_id']
    rfl

theorem setMode_length (c : Ctl) (a : String) (m : CMode) : (c.setMode a m).replicas.length = c.replicas.length := by
  rw [setMode_replicas, List.length_map]

theorem mem_setMode_replicas {c : Ctl} {a : String} {m : CMode} {r : String × CMode}
    (hr : r ∈ (c.setMode a m).replicas) :
    r ∈ c.replicas ∧ (r.1 = a → r.2 = .err) ∨ r.1 = a ∧ r.2 = m := by
  rw [setMode_replicas] at hr
  obtain ⟨r0, hr0, rfl⟩ := List.mem_map.mp hr
  exact iteInduction (motive := fun x : String × CMode => x ∈ c.replicas ∧ (x.1 = a → x.2 = .err) ∨ x.1 = a ∧ x.2 = m)
    (fun h => .inr ⟨h.1, rfl⟩) fun h => .inl ⟨hr0, fun ha => Decidable.not_not.mp fun he => h ⟨ha, he⟩⟩

/-- Under the invariant `setReplicaModeNoLock` does to the I/O table what it does to the list: it sets the
    mode of the backend found by address if a list entry changed, and addresses are unique. -/
theorem setModeCore_eq {c : Ctl} (h : CCore c) (a : String) (m : CMode) :
    c.setModeCore a m = rebuild
      { c with replicas := c.replicas.map fun r => if r.1 = a ∧ r.2 ≠ .err then (r.1, m) else r,
               backends := c.backends.map fun b => if b.addr = a ∧ b.mode ≠ .err then { b with mode := m } else b } := by
  unfold setModeCore
  by_cases hch : (c.replicas.any fun r => r.1 = a ∧ r.2 ≠ .err) = true
  · rw [if_pos hch]
    obtain ⟨r0, hr0, hc0⟩ := List.any_eq_true.mp hch
    obtain ⟨ha0, he0⟩ : r0.1 = a ∧ r0.2 ≠ .err := of_decide_eq_true hc0
    obtain ⟨b0, hb0, rfl⟩ := mem_backends_of_mem_replicas c h r0 hr0
    cases hbo : c.backendOf a with
    | none => exact absurd (show b0.addr = a from ha0) (by simpa using List.find?_eq_none.mp hbo b0 hb0)
    | some _ =>
      have ne : ∀ b ∈ c.backends, b.addr = a → b.mode ≠ .err := fun b hb e =>
        have : key b = key b0 :=
          List.inj_of_nodup_map h.nodup (mem_replicas_of_mem_backends c h b hb) hr0 (e.trans ha0.symm)
        fun hm => he0 (this ▸ (hm : (key b).2 = .err))
      simp only
      congr 2
      exact List.map_congr_left fun b hb => by by_cases e : b.addr = a <;> simp [e, ne b hb]
  · -- every entry of `a` is ERR already: both maps are the identity
    rw [if_neg hch]
    have hr : ∀ r ∈ c.replicas, ¬ (r.1 = a ∧ r.2 ≠ .err) := fun r hr hc =>
      hch (List.any_eq_true.mpr ⟨r, hr, decide_eq_true hc⟩)
    have hb : ∀ b ∈ c.backends, ¬ (b.addr = a ∧ b.mode ≠ .err) := fun b hb =>
      hr _ (mem_replicas_of_mem_backends c h b hb)
    rw [List.map_congr_left fun r h => if_neg (hr r h), List.map_congr_left fun b h => if_neg (hb b h),
      List.map_id', List.map_id']
    exact h.rebuild_eq.symm

theorem wo_count_map (l : List (String × CMode)) (a : String) (m : CMode) (hm : m ≠ .wo) :
    ((l.map fun r => if r.1 = a ∧ r.2 ≠ .err then (r.1, m) else r).filter fun r => r.2 = .wo).length ≤
    (l.filter fun r => r.2 = .wo).length := by
  rw [← List.countP_eq_length_filter, ← List.countP_eq_length_filter, List.countP_map]
  refine List.countP_mono_left fun r _ hw => ?_
  by_cases c : r.1 = a ∧ r.2 ≠ .err
  · simp [c, hm] at hw
  · simpa [c] using hw

theorem ccore_setModeCore (c : Ctl) (h : CCore c) (a : String) (m : CMode) (hm : m ≠ .wo) :
    CCore (c.setModeCore a m) := by
  rw [setModeCore_eq h]
  have fsts : ∀ r : String × CMode, (if r.1 = a ∧ r.2 ≠ .err then (r.1, m) else r).1 = r.1 := fun r => by
    split <;> rfl
  have ids : ∀ b : Backend, (if b.addr = a ∧ b.mode ≠ .err then { b with mode := m } else b).id = b.id := fun b => by
    split <;> rfl
  have keys : ∀ b : Backend, key (if b.addr = a ∧ b.mode ≠ .err then { b with mode := m } else b) =
      if (key b).1 = a ∧ (key b).2 ≠ .err then ((key b).1, m) else key b := fun b => apply_ite key ..
  refine ccore_rebuild_of _ h.rfPos ?_ ?_ ?_ ?_ ⟨?_, h.idsLt.2⟩ ?_ ?_
  · simp only [List.map_map, Function.comp_def, fsts]
    exact h.nodup
  · simp only [← h.agree, List.map_map, Function.comp_def, keys]
  · exact Nat.le_trans (wo_count_map c.replicas a m hm) h.oneWO
  · rw [List.length_map]
    exact h.lenRf
  · simp only [List.forall_mem_map, ids]
    exact h.idsLt.1
  · simp only [List.forall_mem_map, ids]
    exact h.idsLive
  · simp only [List.map_map, Function.comp_def, ids]
    exact h.idsNodup

theorem cinv_setMode (c : Ctl) (h : CInv c) (a : String) (m : CMode) (hm : m ≠ .wo) : CInv (c.setMode a m) := by
  unfold setMode
  refine iteInduction (fun _ => h) fun _ => cinv_updateVolStatus _ (ccore_setModeCore c h.core a m hm) fun hne => ?_
  rw [setModeCore_eq h.core] at hne ⊢
  show (c.replicas.map _).length = c.rf
  rw [List.length_map]
  exact h.ckpt hne

theorem ccore_removeBackend (c : Ctl) (h : CCore c) (a : String) :
    CCore (removeBackend { c with replicas := c.replicas.filter fun r => r.1 ≠ a } a) := by
  have agree : (c.backends.filter fun x => x.addr ≠ a).map key = c.replicas.filter fun r => r.1 ≠ a := by
    rw [← h.agree, List.filter_map]
    rfl
  have nodup : ((c.replicas.filter fun r => r.1 ≠ a).map (·.1)).Nodup := h.nodup.sublist (List.filter_sublist.map _)
  have oneWO : ((c.replicas.filter fun r => r.1 ≠ a).filter fun r => r.2 = .wo).length ≤ 1 :=
    Nat.le_trans (List.filter_sublist.filter _).length_le h.oneWO
  have lenRf : (c.replicas.filter fun r => r.1 ≠ a).length ≤ c.rf := Nat.le_trans (List.length_filter_le _ _) h.lenRf
  unfold removeBackend
  split
  next hb =>
    have hf : c.backends.filter (fun x => x.addr ≠ a) = c.backends :=
      List.filter_eq_self.mpr fun x hx => by simpa using List.find?_eq_none.mp hb x hx
    exact ⟨h.rfPos, nodup, hf ▸ agree, h.fanout, oneWO, lenRf, h.idsLt, h.idsLive, h.idsNodup⟩
  next b hb =>
    have hbm : b ∈ c.backends := List.mem_of_find?_eq_some hb
    have hba : b.addr = a := by simpa using List.find?_some hb
    refine ccore_rebuild_of _ h.rfPos nodup agree oneWO lenRf ⟨?_, ?_⟩ ?_ ?_
    · exact fun x hx => h.idsLt.1 x (List.mem_filter.mp hx).1
    · intro i hi
      rcases List.mem_append.mp hi with hi | hi
      · exact h.idsLt.2 i hi
      · exact List.mem_singleton.mp hi ▸ h.idsLt.1 b hbm
    · -- the closed backend is not among those that stay: ids are unique, and it carries the address
      intro x hx hcl
      obtain ⟨hxm, hxa⟩ := List.mem_filter.mp hx
      rcases List.mem_append.mp hcl with hcl | hcl
      · exact h.idsLive x hxm hcl
      · rw [List.inj_of_nodup_map h.idsNodup hxm hbm (List.mem_singleton.mp hcl), hba] at hxa
        simp at hxa
    · exact h.idsNodup.sublist (List.filter_sublist.map _)

theorem removeBackend_replicas (d : Ctl) (a : String) : (d.removeBackend a).replicas = d.replicas := by
  unfold removeBackend; split <;> rfl

@[simp] theorem removeBackend_rf (c : Ctl) (a : String) : (c.removeBackend a).rf = c.rf := by
  unfold removeBackend; split <;> rfl

/-- `RemoveReplicaNoLock` of an address that is not attached does nothing; otherwise, after a frame step `d` (the
    registration is dropped; the last replica of a volume whose frontend is up takes leader and frontend with it), the
    entry leaves the list, then `RemoveBackend`, `UpdateVolStatus`, `UpdateCheckpoint` -/
theorem removeReplica_cases (c : Ctl) (a : String) (e : CkEnv) :
    c.hasReplica a = false ∧ c.removeReplica a e = c ∨
    ∃ d, Frame c d ∧ d.calls = c.calls ∧ c.removeReplica a e =
      ((({ d with replicas := d.replicas.filter fun r => r.1 ≠ a } : Ctl).removeBackend a).updateVolStatus).updateCheckpoint e := by
  unfold removeReplica
  cases hh : c.hasReplica a with
  | false => exact .inl ⟨rfl, rfl⟩
  | true =>
    simp only [Bool.not_true, Bool.false_eq_true, if_false]
    split
    · exact .inr ⟨{ c with signalled := false, maxRev := "", frontUp := false,
                           registered := c.registered.filter fun r => full r.addr ≠ a }, .set .., rfl, rfl⟩
    · exact .inr ⟨{ c with registered := c.registered.filter fun r => full r.addr ≠ a }, .set .., rfl, rfl⟩

theorem cinv_removeReplica (c : Ctl) (h : CInv c) (a : String) (e : CkEnv) : CInv (c.removeReplica a e) := by
  rcases removeReplica_cases c a e with ⟨_, e1⟩ | ⟨d, f, _, e1⟩ <;> rw [e1]
  · exact h
  · exact cinv_updateCheckpoint _ (ccore_updateVolStatus _ (ccore_removeBackend d (h.core.frame f) a))
      (status_updateVolStatus _) e

theorem removeReplica_replicas (c : Ctl) (a : String) (e : CkEnv) :
    (c.removeReplica a e).replicas = c.replicas.filter (fun r => r.1 ≠ a) := by
  rcases removeReplica_cases c a e with ⟨hh, e1⟩ | ⟨d, f, _, e1⟩ <;> rw [e1]
  · exact (List.filter_eq_self.mpr fun r hr => by simpa using List.any_eq_false.mp hh r hr).symm
  · rw [updateCheckpoint_replicas, ← f.replicas]
    exact removeBackend_replicas _ a

@[simp] theorem removeReplica_rf (c : Ctl) (a : String) (e : CkEnv) : (c.removeReplica a e).rf = c.rf := by
  simp only [removeReplica, apply_ite Ctl.rf, updateCheckpoint_rf, updateVolStatus, removeBackend_rf, ite_self]

theorem removeReplica_length_le (c : Ctl) (a : String) (e : CkEnv) :
    (c.removeReplica a e).replicas.length ≤ c.replicas.length := by
  rw [removeReplica_replicas]; exact List.length_filter_le _ _

theorem hasReplica_removeReplica (c : Ctl) (a : String) (e : CkEnv) (b : String) :
    (c.removeReplica a e).hasReplica b = (c.hasReplica b && b != a) := by
  unfold hasReplica
  rw [removeReplica_replicas, Bool.eq_iff_iff]
  simp only [List.any_eq_true, List.mem_filter, Bool.and_eq_true, decide_eq_true_eq, bne_iff_ne]
  exact ⟨fun ⟨r, ⟨hr, hna⟩, hb⟩ => ⟨⟨r, hr, hb⟩, hb ▸ hna⟩, fun ⟨⟨r, hr, hb⟩, hne⟩ => ⟨r, ⟨hr, hb ▸ hne⟩, hb⟩⟩

theorem hasReplica_removeReplica_self (c : Ctl) (a : String) (e : CkEnv) :
    (c.removeReplica a e).hasReplica a = false := by
  rw [hasReplica_removeReplica, bne_self_eq_false, Bool.and_false]

theorem removeReplica_gone (c : Ctl) (h : CInv c) (a : String) (e : CkEnv) :
    (c.removeReplica a e).hasReplica a = false ∧ (c.removeReplica a e).backendOf a = none :=
  ⟨hasReplica_removeReplica_self c a e,
   backendOf_none (cinv_removeReplica c h a e).core (hasReplica_removeReplica_self c a e)⟩

theorem cinv_handleError (c : Ctl) (h : CInv c) (errs : List String) : CInv (c.handleError errs).1 := by
  unfold handleError
  split
  · exact h
  · exact List.foldlRecOn errs _ h fun d hd a _ => cinv_setMode d hd a .err (by decide)

theorem cinv_removeAll (c : Ctl) (h : CInv c) (errs : List String) : CInv (c.removeAll errs) :=
  List.foldlRecOn errs _ h fun d hd a _ => cinv_removeReplica d hd a CkEnv.none

theorem removeAll_replicas (errs : List String) (c : Ctl) :
    (c.removeAll errs).replicas = c.replicas.filter fun r => !errs.contains r.1 := by
  induction errs generalizing c with
  | nil => exact (List.filter_eq_self.mpr fun _ _ => rfl).symm
  | cons x xs ih =>
    show ((c.removeReplica x CkEnv.none).removeAll xs).replicas = _
    rw [ih, removeReplica_replicas, List.filter_filter]
    congr 1; funext r; by_cases h : r.1 = x <;> simp [h]

theorem cinv_ioFail (c : Ctl) (h : CInv c) (errs : List String) : CInv (c.ioFail errs).1 := by
  unfold ioFail
  exact cinv_removeAll _ (cinv_handleError c h errs) errs

end Ctl
end Jiva
