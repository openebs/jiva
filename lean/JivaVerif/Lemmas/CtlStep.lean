import JivaVerif.Lemmas.CtlRf
/-! Every request preserves the invariant and brings nobody back into service.  `Ok k c c'`: the state `c'`, reached in
    the course of a request from `c`, satisfies the invariant, and nobody with a backend id below `k` came (back) into
    service on the way.  Every lemma extends such a path on the right by one primitive or one request, so the proof for
    a request reads like its code. -/
namespace Jiva
namespace Ctl

structure Ok (k : Nat) (c c' : Ctl) : Prop where
  inv   : CInv c'
  next  : k ≤ c'.nextId
  keeps : Keeps k c c'

namespace Ok
variable {k : Nat} {c c' : Ctl}

theorem refl (h : CInv c) (hk : k ≤ c.nextId) : Ok k c c := ⟨h, hk, Keeps.refl k c⟩

theorem pres {c'' : Ctl} (o : Ok k c c') (hi : CInv c'') (p : Pres c' c'') : Ok k c c'' :=
  ⟨hi, p.next ▸ o.next, o.keeps.trans (p.keeps k)⟩

theorem frame {c'' : Ctl} (o : Ok k c c') (f : Frame c' c'') : Ok k c c'' :=
  ⟨o.inv.frame f, f.nextId ▸ o.next, o.keeps.trans (keeps_of_backends k _ _ f.backends)⟩

theorem calls (o : Ok k c c') {α : Type} (l : List α) (f : α → Nat) (m : String) :
    Ok k c (l.foldl (fun c x => c.call (f x) m) c') := o.frame (frame_calls ..)

theorem readCalls (o : Ok k c c') (t : List (String × Out)) : Ok k c (c'.readCalls t) :=
  o.frame (frame_readCalls ..)

theorem setMode (o : Ok k c c') (a : String) {m : CMode} (hm : m ≠ .wo) : Ok k c (c'.setMode a m) :=
  o.pres (cinv_setMode _ o.inv a m hm) (pres_setMode o.inv.core a m)

theorem setModes (o : Ok k c c') (l : List String) {m : CMode} (hm : m ≠ .wo) :
    Ok k c (l.foldl (fun c a => c.setMode a m) c') :=
  List.foldlRecOn l _ o fun _ od a _ => od.setMode a hm

theorem removeReplica (o : Ok k c c') (a : String) (e : CkEnv) : Ok k c (c'.removeReplica a e) :=
  o.pres (cinv_removeReplica _ o.inv a e) (pres_removeReplica ..)

theorem handleError (o : Ok k c c') (errs : List String) : Ok k c (c'.handleError errs).1 :=
  o.pres (cinv_handleError _ o.inv errs) (pres_handleError ..)

theorem ioFail (o : Ok k c c') (errs : List String) : Ok k c (c'.ioFail errs).1 :=
  o.pres (cinv_ioFail _ o.inv errs) (pres_ioFail ..)

/-- `UpdateVolStatus` followed by `UpdateCheckpoint`, the common tail of every membership change -/
theorem settle (o : Ok k c c') (ck : CkEnv) : Ok k c (c'.updateVolStatus.updateCheckpoint ck) :=
  have h := cinv_updateVolStatus _ o.inv.core o.inv.ckpt
  (o.pres h (pres_updateVolStatus _)).pres (cinv_updateCheckpoint _ h.core h.status ck) (pres_updateCheckpoint ..)

theorem reserveId (o : Ok k c c') : Ok k c c'.reserveId :=
  ⟨cinv_reserveId _ o.inv, Nat.le_succ_of_le o.next, o.keeps.trans (keeps_of_backends k _ _ rfl)⟩

/-- the new backend got the next id, then came frame steps (`f`: calls, the size); it is closed unattached -/
theorem closeNew (o : Ok k c c') {d : Ctl} (f : Frame c'.reserveId d) : Ok k c (d.closeNew c'.nextId) :=
  (o.reserveId.frame f).pres (cinv_closeNew _ (o.reserveId.frame f).inv _ ((fresh_reserveId o.inv).frame f))
    (pres_closeNew ..)

theorem attach (o : Ok k c c') {d : Ctl} (f : Frame c'.reserveId d) {addr : String}
    (hno : c'.hasReplica addr = false) (hwo : c'.replicas.filter (fun r => r.2 = .wo) = [])
    (hlen : c'.replicas.length < c'.rf) : Ok k c (d.attach addr c'.nextId) := by
  have o1 := o.reserveId.frame f
  have e : d.replicas = c'.replicas := f.replicas
  refine ⟨cinv_attach _ o1.inv addr _ ((fresh_reserveId o.inv).frame f) ?_ ?_ ?_, o1.next,
    o1.keeps.trans (keeps_attach k _ addr _ o.next)⟩
  · rw [hasReplica, e]
    exact hno
  · rw [e]
    exact hwo
  · rw [e, f.rf]
    exact hlen

theorem stepFanOut (o : Ok k c c') (m : String) (fails : List String) : Ok k c (c'.stepFanOut m fails).1 := by
  simp only [Ctl.stepFanOut, apply_ite Prod.fst]
  exact iteInduction (fun _ => o) fun _ => iteInduction (fun _ => o.calls ..) fun _ => (o.calls ..).ioFail _

theorem stepSync (o : Ok k c c') (m : String) (fails : List String) : Ok k c (c'.stepSync m fails).1 := by
  simp only [Ctl.stepSync, apply_ite Prod.fst]
  exact iteInduction (fun _ => o) fun _ => o.stepFanOut m fails

theorem stepWrite (o : Ok k c c') (off len : Nat) (fails : List String) (t : List (String × Out)) :
    Ok k c (c'.stepWrite off len fails t).1 := by
  simp only [Ctl.stepWrite, apply_ite Prod.fst]
  have o1 := o.readCalls t
  exact iteInduction (fun _ => o) fun _ =>                                       -- read-only
    iteInduction (fun _ => o) fun _ =>                                           -- out of range
      iteInduction (fun _ =>                                                     -- a read comes first:
          iteInduction (fun _ => o) fun _ =>                                     -- nobody to read from
            iteInduction (fun _ =>                                               -- no reader failed:
                iteInduction (fun _ => o1.stepFanOut ..) fun _ => o1) fun _ =>   -- served; not served
              iteInduction (fun _ =>                                             -- served, an RW replica is left:
                  iteInduction (fun _ => o1.ioFail _)                            -- the quorum is lost
                    fun _ => (o1.ioFail _).stepFanOut ..)
                fun _ => o1.ioFail _)
        fun _ => o.stepFanOut ..

theorem stepRead (o : Ok k c c') (off len : Nat) (t : List (String × Out)) : Ok k c (c'.stepRead off len t).1 := by
  simp only [Ctl.stepRead, apply_ite Prod.fst]
  exact iteInduction (fun _ => o) fun _ => iteInduction (fun _ => o) fun _ => iteInduction (fun _ => o) fun _ =>
    iteInduction (fun _ => o) fun _ => iteInduction (fun _ => o.readCalls t) fun _ => (o.readCalls t).ioFail _

theorem stepSnapshot (o : Ok k c c') (ex : Option Bool) (fails : List String) :
    Ok k c (c'.stepSnapshot ex fails).1 := by
  rcases ex with _ | _ | _ <;> simp only [Ctl.stepSnapshot, apply_ite Prod.fst]
  · exact iteInduction (fun _ => o) fun _ => o
  · exact iteInduction (fun _ => o) fun _ => iteInduction (fun _ => o.calls ..) fun _ => (o.calls ..).handleError _
  · exact iteInduction (fun _ => o) fun _ => o

theorem stepResize (o : Ok k c c') (size : Nat) (fails : List String) : Ok k c (c'.stepResize size fails).1 := by
  simp only [Ctl.stepResize, apply_ite Prod.fst]
  exact iteInduction (fun _ => o) fun _ => iteInduction (fun _ => (o.calls ..).frame (.set ..)) fun _ =>
    iteInduction (fun _ => (o.calls ..).handleError _) fun _ => ((o.calls ..).handleError _).frame (.set ..)

theorem stepMon (o : Ok k c c') (a : String) (err : Bool) : Ok k c (c'.stepMon a err).1 :=
  Ok.removeReplica (iteInduction (fun _ => o.setMode a (by decide)) fun _ => o) a _

theorem stepRegister (o : Ok k c c') (r : Reg) (so al : Bool) (el : String) :
    Ok k c (c'.stepRegister r so al el).1 := o.frame (frame_stepRegister ..)

theorem stepVerify (o : Ok k c c') (a : String) (rwc woc : Option (List String)) (ckp : Option String)
    (rev : Option Nat) (o1 o2 : Bool) (ck : CkEnv) : Ok k c (c'.stepVerify a rwc woc ckp rev o1 o2 ck).1 := by
  -- `simp only [e]` also reduces the projection of the pair; after `rw [e]` the `exact`s unify through it,
  -- at four times the cost
  rcases stepVerify_cases c' a rwc woc ckp rev o1 o2 ck with ⟨d, _, f, e, _⟩ | ⟨d, f, e, _⟩ <;> simp only [e]
  · exact o.frame f
  · exact ((o.frame f).setMode a (by decide)).settle ck

theorem canAdd (o : Ok k c c') {addr : String} {tk : Option Bool} {c1 : Ctl} (e : c'.canAdd addr tk = some c1) :
    Ok k c c1 ∧ c1.hasReplica addr = false ∧ c1.replicas.filter (fun r => r.2 = .wo) = [] ∧
    c1.replicas.length ≤ c'.replicas.length ∧ c1.rf = c'.rf := by
  obtain ⟨hno, hwo⟩ := canAdd_some o.inv.core e
  refine ⟨?_, hno, hwo, canAdd_length_le c' addr tk c1 e⟩
  rcases (canAdd_cases e).2 with ⟨_, rfl⟩ | ⟨w, _, _, _, rfl⟩
  · exact o
  · exact o.removeReplica ..

theorem attachNew (o : Ok k c c') (addr : String) (sf : List String) (nso swo : Bool) (ck : CkEnv)
    (hno : c'.hasReplica addr = false) (hwo : c'.replicas.filter (fun r => r.2 = .wo) = [])
    (hrf : c'.replicas.length < c'.rf) : Ok k c (Ctl.attachNew c'.reserveId addr c'.nextId sf nso swo ck).1 := by
  simp only [Ctl.attachNew, apply_ite Prod.fst]
  have f1 := frame_calls c'.reserveId (c'.reserveId.backends.filter fun b => b.mode ≠ .err) (·.id) "Snapshot"
  have f2 := f1.trans (frame_call _ c'.nextId "Snapshot")
  have f3 := f2.trans (frame_call _ c'.nextId "SetReplicaMode")
  exact iteInduction (fun _ => o.closeNew f1) fun _ => iteInduction (fun _ => o.closeNew f2) fun _ =>
    iteInduction (fun _ => o.reserveId.frame f3) fun _ => (o.attach f3 hno hwo hrf).settle ck

theorem stepAddPre (o : Ok k c c') (addr : String) (tk : Option Bool) : Ok k c (c'.stepAddPre addr tk).1 := by
  unfold Ctl.stepAddPre
  split
  · exact o
  · simp only [apply_ite Prod.fst, ite_self]
    exact (o.canAdd ‹_›).1

theorem stepAddPost (o : Ok k c c') (addr : String) (tk : Option Bool) (cok : Bool) (sf : List String)
    (nso swo : Bool) (ck : CkEnv) : Ok k c (c'.stepAddPost addr tk cok sf nso swo ck).1 := by
  unfold Ctl.stepAddPost
  cases e : c'.canAdd addr tk <;> simp only [apply_ite Prod.fst]
  · exact iteInduction (fun _ => o) fun _ => iteInduction (fun _ => o.closeNew (.refl _)) fun _ => o.reserveId
  · refine iteInduction (fun _ => o) fun _ => iteInduction (fun _ => o.closeNew (.refl _)) fun hn => ?_
    -- the replication factor: `canAdd` only ever removes replicas
    obtain ⟨o1, hno, hwo, hl, hr⟩ := o.canAdd e
    exact o1.attachNew addr sf nso swo ck hno hwo (by have := o.inv.core.lenRf; omega)

theorem stepAdd (o : Ok k c c') (addr : String) (tk : Option Bool) (cok : Bool) (sf : List String)
    (nso swo : Bool) (ck : CkEnv) : Ok k c (c'.stepAdd addr tk cok sf nso swo ck).1 := by
  simp only [Ctl.stepAdd, apply_ite Prod.fst]
  exact iteInduction (fun _ => (o.stepAddPre ..).stepAddPost ..) fun _ => o.stepAddPre ..

theorem startOne (o : Ok k c c') (e : StartEnv) (hlen : c'.replicas.length < c'.rf) :
    Ok k c (c'.startOne e).1 ∧ (c'.startOne e).1.replicas.length ≤ c'.replicas.length + 1 := by
  rcases startOne_cases c' e with ⟨d, f, h⟩ | ⟨d, d', f, f', hno, hwo, h⟩
  · simp only [h]
    rcases f with f | f
    · exact ⟨o.frame f, f.replicas ▸ Nat.le_succ _⟩
    · exact ⟨o.reserveId.frame f, f.replicas ▸ Nat.le_succ _⟩
  · have o3 := (o.attach f hno hwo hlen).frame f'
    have l3 : d'.replicas.length = c'.replicas.length + 1 := by
      rw [f'.replicas]
      show (d.replicas ++ [(e.addr, CMode.wo)]).length = _
      rw [f.replicas, List.length_append]
      rfl
    rcases h with h | ⟨_, _, h⟩ <;> simp only [h]
    · exact ⟨o3.removeReplica .., Nat.le_trans (removeReplica_length_le ..) (Nat.le_of_eq l3)⟩
    · exact ⟨o3.setMode _ (by decide), Nat.le_of_eq ((setMode_length ..).trans l3)⟩

theorem startLoop (o : Ok k c c') (es : List StartEnv) (hl : c'.replicas.length + es.length ≤ c'.rf) :
    Ok k c (c'.startLoop es).1 := by
  induction es generalizing c' with
  | nil => exact o
  | cons e es ih =>
    rw [List.length_cons] at hl
    obtain ⟨o1, l1⟩ := o.startOne e (by omega)
    simp only [Ctl.startLoop, apply_ite Prod.fst]
    exact iteInduction (fun _ => ih o1 (by rw [startOne_rf]; omega)) fun _ => o1

theorem stepStart (o : Ok k c c') (es : List StartEnv) (ck : CkEnv) : Ok k c (c'.stepStart es ck).1 := by
  unfold Ctl.stepStart
  split
  · exact o
  · rename_i e0 rest
    simp only [apply_ite Prod.fst]
    refine iteInduction (fun _ => o) fun h1 => iteInduction (fun _ => o) fun _ => iteInduction (fun _ => o) fun h3 => ?_
    -- `reset()` leaves the empty list (by unfolding), and the addresses fit under the replication factor (`h3`)
    have o1 := (o.pres (cinv_startReset c' o.inv h1) (pres_startReset c')).startLoop (e0 :: rest)
      (by show 0 + _ ≤ c'.rf; omega)
    exact iteInduction (fun _ => o1.frame (frame_startFront _)) fun _ =>
      iteInduction (fun _ => o1.frame (frame_startFront _)) fun _ =>
        ((o1.setModes _ (by decide)).settle ck).frame (frame_startFront _)

theorem step (o : Ok k c c') (op : CtlOp) : Ok k c (c'.step op).1 := by
  have o0 : Ok k c c'.clearLog := o.frame (.set ..)
  cases op with
  | register r so al el => exact o0.stepRegister r so al el
  | start es ck => exact o0.stepStart es ck
  | add a tk cok sf nso swo ck => exact o0.stepAdd a tk cok sf nso swo ck
  | addPre a tk => exact o0.stepAddPre a tk
  | addPost a tk cok sf nso swo ck => exact o0.stepAddPost a tk cok sf nso swo ck
  | remove a => exact o0.removeReplica a CkEnv.none
  | setMode a m => exact iteInduction (motive := fun r : Ctl × CtlOut => Ok k c r.1) (fun _ => o0) fun hm => o0.setMode a hm
  | verify a rwc woc ckp rev o1 o2 ck => exact o0.stepVerify a rwc woc ckp rev o1 o2 ck
  | write off len f t => exact o0.stepWrite off len f t
  | sync f => exact o0.stepSync _ f
  | unmap f => exact o0.stepSync _ f
  | read off len t => exact o0.stepRead off len t
  | snapshot n ex f => exact o0.stepSnapshot ex f
  | resize sz f => exact o0.stepResize sz f
  | mon a e => exact o0.stepMon a e

theorem run (o : Ok k c c') (ops : List CtlOp) : Ok k c (c'.run ops) := by
  induction ops generalizing c' with
  | nil => exact o
  | cons op ops ih => exact ih (o.step op)

end Ok

theorem cinv_step (c : Ctl) (h : CInv c) (op : CtlOp) : CInv (c.step op).1 :=
  ((Ok.refl h (Nat.le_refl _)).step op).inv

theorem cinv_run (ops : List CtlOp) : ∀ c, CInv c → CInv (c.run ops) :=
  fun _ h => ((Ok.refl h (Nat.le_refl _)).run ops).inv

theorem keeps_step (c : Ctl) (h : CInv c) (op : CtlOp) : Keeps c.nextId c (c.step op).1 :=
  ((Ok.refl h (Nat.le_refl _)).step op).keeps

end Ctl
end Jiva
