import JivaVerif.Model.DiffDisk
/-! What `scan` and `lastMark` return, what a view depends on (`viewUpTo_congr`, `viewUpTo_eq_above`), and the chain
with another head file. -/
namespace Jiva
namespace DD
variable {β : Type}

theorem scan_spec (files : Nat → File β) (b : Nat) :
    ∀ n, 1 ≤ n →
      1 ≤ scan files b n ∧ scan files b n ≤ n ∧
      (∀ j, scan files b n < j → j ≤ n → (files j).alloc b = false) ∧
      (1 < scan files b n → (files (scan files b n)).alloc b = true)
  | 1, _ => ⟨Nat.le_refl 1, Nat.le_refl 1, fun _ h1 h2 => absurd h2 (Nat.not_le_of_lt h1), fun h => absurd h (Nat.lt_irrefl 1)⟩
  | n + 2, _ => by
    rw [scan]
    by_cases ha : (files (n + 2)).alloc b = true
    · rw [if_pos ha]
      exact ⟨Nat.le_add_left 1 _, Nat.le_refl _, fun j h1 h2 => absurd h2 (Nat.not_le_of_lt h1), fun _ => ha⟩
    · rw [if_neg ha]
      have ⟨i1, i2, i3, i4⟩ := scan_spec files b (n + 1) (Nat.le_add_left 1 n)
      refine ⟨i1, Nat.le_succ_of_le i2, fun j h1 h2 => ?_, i4⟩
      by_cases hj : j = n + 2
      · rw [hj]; exact Bool.eq_false_iff.mpr ha
      · exact i3 j h1 (by omega)

theorem lastMark_le (m : Nat → Bool) : ∀ i, lastMark m i ≤ i := by
  intro i; induction i with
  | zero => simp [lastMark]
  | succ i ih => unfold lastMark; split <;> omega

theorem lastMark_ge (m : Nat → Bool) : ∀ i j, 1 ≤ j → j ≤ i → m j = true → j ≤ lastMark m i := by
  intro i; induction i with
  | zero => intro j h1 h2; omega
  | succ i ih =>
    intro j h1 h2 hm
    unfold lastMark
    split
    · omega
    · rename_i hf
      have : j ≠ i + 1 := by intro h; subst h; exact hf hm
      exact ih j h1 (by omega) hm

theorem lastMark_marked (m : Nat → Bool) : ∀ i, lastMark m i ≠ 0 → m (lastMark m i) = true := by
  intro i; induction i with
  | zero => simp [lastMark]
  | succ i ih =>
    unfold lastMark
    split
    · intro _; assumption
    · exact ih

variable [Inhabited β]

theorem viewUpTo_succ (files : Nat → File β) (bs i u : Nat) :
    viewUpTo files bs (i + 1) u =
      if (files (i + 1)).alloc (u / bs) then (files (i + 1)).data u else viewUpTo files bs i u := rfl

theorem viewUpTo_of_none_above (files : Nat → File β) (bs u i : Nat) :
    ∀ n, i ≤ n → (∀ j, i < j → j ≤ n → (files j).alloc (u / bs) = false) →
      viewUpTo files bs n u = viewUpTo files bs i u := by
  intro n h
  induction h with
  | refl => intro _; rfl
  | step h ih =>
    intro hn
    rw [viewUpTo_succ, hn _ (Nat.lt_succ_of_le h) (Nat.le_refl _), if_neg Bool.false_ne_true]
    exact ih fun j hj hjm => hn j hj (Nat.le_succ_of_le hjm)

theorem viewUpTo_of_none (files : Nat → File β) (bs u : Nat) :
    ∀ i, (∀ j, j ≤ i → (files j).alloc (u / bs) = false) → viewUpTo files bs i u = default :=
  fun i h => viewUpTo_of_none_above files bs u 0 i (Nat.zero_le i) fun j _ hj => h j hj

theorem viewUpTo_congr (f g : Nat → File β) (bs u : Nat) :
    ∀ i, (∀ j, 1 ≤ j → j ≤ i → (f j).alloc (u / bs) = (g j).alloc (u / bs) ∧
                 ((f j).alloc (u / bs) = true → (f j).data u = (g j).data u)) →
      viewUpTo f bs i u = viewUpTo g bs i u := by
  intro i
  induction i with
  | zero => intro _; rfl
  | succ i ih =>
    intro h
    have h1 := h (i + 1) (Nat.le_add_left 1 i) (Nat.le_refl _)
    rw [viewUpTo_succ, viewUpTo_succ, ← h1.1]
    by_cases ha : (f (i + 1)).alloc (u / bs) = true
    · rw [if_pos ha, if_pos ha]; exact h1.2 ha
    · rw [if_neg ha, if_neg ha]
      exact ih fun j hj hji => h j hj (Nat.le_succ_of_le hji)

theorem viewUpTo_congr_files (f g : Nat → File β) (bs u i : Nat) (h : ∀ j, 1 ≤ j → j ≤ i → f j = g j) :
    viewUpTo f bs i u = viewUpTo g bs i u :=
  viewUpTo_congr f g bs u i fun j h1 h2 => by rw [h j h1 h2]; exact ⟨rfl, fun _ => rfl⟩

theorem viewUpTo_eq_above (f g : Nat → File β) (bs k u : Nat)
    (hk : viewUpTo f bs k u = viewUpTo g bs k u) (habove : ∀ j, k < j → f j = g j) :
    ∀ i, k ≤ i → viewUpTo f bs i u = viewUpTo g bs i u := by
  intro i hi
  induction hi with
  | refl => exact hk
  | step hi ih => rw [viewUpTo_succ, viewUpTo_succ, habove _ (Nat.lt_succ_of_le hi), ih]

theorem viewUpTo_congr_below (f g : Nat → File β) (bs u k : Nat) :
    ∀ i, (∃ h, k < h ∧ h ≤ i ∧ (f h).alloc (u / bs) = true) →
      (∀ j, j ≠ k → f j = g j) →
      viewUpTo f bs i u = viewUpTo g bs i u := by
  intro i ⟨h, hk, hi, ha⟩ hfg
  refine viewUpTo_eq_above f g bs h u ?_ (fun j hj => hfg j (Nat.ne_of_gt (Nat.lt_trans hk hj))) i hi
  cases h with
  | zero => exact absurd hk (Nat.not_lt_zero k)
  | succ m => rw [viewUpTo_succ, viewUpTo_succ, ← hfg (m + 1) (Nat.ne_of_gt hk), if_pos ha, if_pos ha]

/-- A block write, a torn write and the graft of a rebuilt replica's head all replace the file at `top` and
    nothing else that a view depends on. -/
def setHead (d : DD β) (f : File β) : DD β := { d with files := fun i => if i = d.top then f else d.files i }

theorem view_setHead_below (d : DD β) (f : File β) (i u : Nat) (hi : i < d.top) :
    (d.setHead f).view i u = d.view i u :=
  viewUpTo_congr_files _ _ _ _ _ fun j _ hj => if_neg (by omega)

theorem live_head (d : DD β) (htop : 1 ≤ d.top) (u : Nat) :
    d.live u = if (d.files d.top).alloc (u / d.bs) then (d.files d.top).data u else d.view (d.top - 1) u := by
  obtain ⟨t, ht⟩ : ∃ t, d.top = t + 1 := ⟨d.top - 1, by omega⟩
  unfold live view; rw [ht]; rfl

theorem live_setHead (d : DD β) (htop : 1 ≤ d.top) (f : File β) (u : Nat) :
    (d.setHead f).live u = if f.alloc (u / d.bs) then f.data u else d.view (d.top - 1) u := by
  refine (live_head (d.setHead f) htop u).trans ?_
  rw [show (d.setHead f).files (d.setHead f).top = f from if_pos rfl]
  exact congrArg _ (view_setHead_below d f _ u (by show d.top - 1 < d.top; omega))

theorem live_overlay (d : DD β) (htop : 1 ≤ d.top) (P : Nat → Prop) [DecidablePred P] (buf : Nat → β) (u : Nat) :
    (d.setHead ⟨fun b => if P b then true else (d.files d.top).alloc b,
                fun u => if P (u / d.bs) then buf u else (d.files d.top).data u⟩).live u =
      if P (u / d.bs) then buf u else d.live u := by
  rw [live_setHead d htop, live_head d htop]
  by_cases hin : P (u / d.bs)
  · simp only [if_pos hin, if_true]
  · simp only [if_neg hin]

end DD
end Jiva
