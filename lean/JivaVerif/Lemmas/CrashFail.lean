import JivaVerif.Model.CrashFail
import JivaVerif.Lemmas.Crash
/-!
# One failing call: an operation tree as a sequence of blocks

A block is a run of straight-line calls that share one error handler, `chain (cs.map (·, h)) k`.  A fault in a
block: the calls before it, then the handler without a fault; otherwise the whole block, and the fault moves on
(`flow_block_*`).  `exec_block` is that as a rule for walking through an operation.
-/
namespace Jiva.Crash

theorem encodeP_eq_chain (tmp dst : Key) (e : Ent) (k h : Prog) :
    encodeP tmp dst e k h = chain ((encode tmp dst e).map (·, h)) k := rfl

theorem rmDiskP_eq_chain (name : String) (k h : Prog) : rmDiskP name k h = chain ((rmDisk name).map (·, h)) k := rfl

theorem chain_map_append (a b : List Call) (h k : Prog) :
    chain ((a ++ b).map (·, h)) k = chain (a.map (·, h)) (chain (b.map (·, h)) k) := by
  induction a with
  | nil => rfl
  | cons c a ih => simp only [List.cons_append, List.map_cons, chain, ih]

theorem flow_block_none (cs : List Call) (h k : Prog) :
    flow (chain (cs.map (·, h)) k) none = (cs ++ (flow k none).1, (flow k none).2) := by
  induction cs with
  | nil => rfl
  | cons c cs ih => simp only [List.map_cons, chain, flow, ih, List.cons_append]

theorem flow_block_lt (h k : Prog) : ∀ (cs : List Call) (n : Nat), n < cs.length →
    flow (chain (cs.map (·, h)) k) (some n) = (cs.take n ++ (flow h none).1, (flow h none).2)
  | _ :: _, 0, _ => rfl
  | c :: cs, n + 1, hn => by
    simp only [List.map_cons, chain, flow, flow_block_lt h k cs n (Nat.lt_of_succ_lt_succ hn),
      List.take_succ_cons, List.cons_append]

theorem flow_block_ge (h k : Prog) : ∀ (cs : List Call) (n : Nat),
    flow (chain (cs.map (·, h)) k) (some (cs.length + n)) = (cs ++ (flow k (some n)).1, (flow k (some n)).2)
  | [], n => by rw [List.length_nil, Nat.zero_add]; rfl
  | c :: cs, n => by
    rw [List.length_cons, Nat.add_right_comm]
    simp only [List.map_cons, chain, flow, flow_block_ge h k cs n, List.cons_append]

theorem exec_run (p : Prog) (fs : FS) (cs : List Call) (f : Option Nat) :
    exec p (run fs cs) f = (run fs (cs ++ (flow p f).1), (flow p f).2) := by
  rw [run_append]; rfl

/-- `pre` are the calls already made; `H`, `b` are the calls and the result of the block's handler.  The equations
    on `f` are there for a `Q` that speaks of the position of the fault. -/
theorem exec_block (Q : FS → Bool → Prop) (fs : FS) (pre cs H : List Call) (b : Bool) (h k : Prog) (f : Option Nat)
    (hh : flow h none = (H, b))
    (hfail : ∀ n, n < cs.length → f = some n → Q (run fs (pre ++ cs.take n ++ H)) b)
    (hok : ∀ f', f = f'.map (cs.length + ·) → Q (exec k (run fs (pre ++ cs)) f').1 (exec k (run fs (pre ++ cs)) f').2) :
    Q (exec (chain (cs.map (·, h)) k) (run fs pre) f).1 (exec (chain (cs.map (·, h)) k) (run fs pre) f).2 := by
  rw [exec_run]
  match f with
  | none => rw [flow_block_none, ← List.append_assoc, ← exec_run]; exact hok none rfl
  | some n =>
    by_cases hn : n < cs.length
    · rw [flow_block_lt h k cs n hn, hh, ← List.append_assoc]; exact hfail n hn rfl
    · obtain ⟨m, rfl⟩ : ∃ m, n = cs.length + m := ⟨n - cs.length, by omega⟩
      rw [flow_block_ge, ← List.append_assoc, ← exec_run]; exact hok (some m) rfl

theorem exec_ret (Q : FS → Bool → Prop) (fs : FS) (b : Bool) (f : Option Nat) (h : Q fs b) :
    Q (exec (.ret b) fs f).1 (exec (.ret b) fs f).2 := h

theorem exec_block_ret (Q : FS → Bool → Prop) (fs : FS) (pre cs : List Call) (b : Bool) (k : Prog) (f : Option Nat)
    (hfail : ∀ n, n < cs.length → f = some n → Q (run fs (pre ++ cs.take n)) b)
    (hok : ∀ f', f = f'.map (cs.length + ·) → Q (exec k (run fs (pre ++ cs)) f').1 (exec k (run fs (pre ++ cs)) f').2) :
    Q (exec (chain (cs.map (·, .ret b)) k) (run fs pre) f).1 (exec (chain (cs.map (·, .ret b)) k) (run fs pre) f).2 :=
  exec_block Q fs pre cs [] b _ k f rfl (fun n hn e => (List.append_nil _).symm ▸ hfail n hn e) hok

theorem exec_call (Q : FS → Bool → Prop) (fs : FS) (pre H : List Call) (c : Call) (b : Bool) (h k : Prog) (f : Option Nat)
    (hh : flow h none = (H, b)) (hfail : f = some 0 → Q (run fs (pre ++ H)) b)
    (hok : ∀ f', f = f'.map (1 + ·) → Q (exec k (run fs (pre ++ [c])) f').1 (exec k (run fs (pre ++ [c])) f').2) :
    Q (exec (.call c k h) (run fs pre) f).1 (exec (.call c k h) (run fs pre) f).2 :=
  exec_block Q fs pre [c] H b h k f hh
    (fun n hn e => by obtain rfl : n = 0 := Nat.lt_one_iff.mp hn; rw [List.take_zero, List.append_nil]; exact hfail e) hok

/-- an operation that stops at its first failing call (`hp`): a fault is process death at that call, reported -/
theorem exec_failstop (Q : FS → Bool → Prop) (fs : FS) {p : Prog} {cs : List Call}
    (hp : p = chain (cs.map (·, .ret false)) (.ret true)) (f : Option Nat)
    (hfail : ∀ n, n < cs.length → Q (run fs (cs.take n)) false) (hok : Q (run fs cs) true) :
    Q (exec p fs f).1 (exec p fs f).2 :=
  hp ▸ exec_block_ret Q fs [] cs false _ f (fun n hn _ => hfail n hn) (fun _ _ => hok)

theorem apply_create_idem (fs : FS) (k : Key) (e : Ent) :
    apply (apply fs (.create k e)) (.create k e) = apply fs (.create k e) := by
  have h : get (apply fs (.create k e)) k ≠ none := by rw [get_apply_create, if_pos rfl]; cases get fs k <;> simp
  rw [apply]
  split
  · rfl
  · contradiction

/-- the probing open of a new head is repeated with `O_CREAT`: made once or twice, it is the same -/
theorem run_create_twice (fs : FS) (pre rest : List Call) (k : Key) (e : Ent) :
    run fs (pre ++ .create k e :: .create k e :: rest) = run fs (pre ++ .create k e :: rest) := by
  simp only [run_append, run_cons, apply_create_idem]

end Jiva.Crash
