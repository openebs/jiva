import JivaVerif.Model.Cleaner
/-! What the cleaner's candidate filter lets through. -/
namespace Jiva
namespace DD
variable {β : Type}

theorem mem_candidatesUpTo (d : DD β) : ∀ n k, k ∈ candidatesUpTo d n →
    2 ≤ k ∧ k ≤ n ∧ d.ur k = false ∧ d.ur (k - 1) = false := by
  intro n
  induction n with
  | zero => intro k hk; cases hk
  | succ n ih =>
    intro k hk
    have older := fun hk => (ih k hk).imp_right (And.imp_left Nat.le_succ_of_le)
    rw [candidatesUpTo] at hk
    by_cases c : 2 ≤ n + 1 ∧ d.ur (n + 1) = false ∧ d.ur n = false
    · rw [if_pos c] at hk
      rcases List.mem_append.mp hk with hk | hk
      · exact older hk
      · cases List.mem_singleton.mp hk
        exact ⟨c.1, Nat.le_refl _, c.2⟩
    · rw [if_neg c] at hk
      exact older hk

end DD
end Jiva
