import JivaVerif.Model.Replica
/-! What `Rep.step` does on a `Snapshot` request, as a case lemma that several property modules share.  The first
    `simp only [Rep.step]` makes Lean generate the equation lemmas of `Rep.step`, one per request, which is dear; done
    here, the modules that import this one find them. -/
namespace Jiva
namespace Rep

theorem step_snap_cases (r : Rep) (n : String) (u : Bool) :
    ((r.step (.snap n u)).2 = .refused ∧ ∃ o, (r.step (.snap n u)).1 = { r with orphans := o }) ∨
    (r.indexOf n = 0 ∧ r.dd.top + 2 ≤ r.chainLimit ∧
      r.step (.snap n u) = ({ r with dd := r.dd.snapshot u, names := r.names ++ [n], recs := r.recs ++ [r.rev],
                                     headN := r.headN + 1 }, .ok)) := by
  generalize e : r.step (.snap n u) = x
  simp only [Rep.step] at e
  by_cases h1 : (!r.isOpen) = true
  · rw [if_pos h1] at e; subst e; exact Or.inl ⟨rfl, _, rfl⟩
  by_cases h2 : r.dd.top + 2 > r.chainLimit
  · rw [if_neg h1, if_pos h2] at e; subst e; exact Or.inl ⟨rfl, _, rfl⟩
  by_cases h3 : r.indexOf n ≠ 0
  · rw [if_neg h1, if_neg h2, if_pos h3] at e; subst e; exact Or.inl ⟨rfl, _, rfl⟩
  by_cases h4 : r.orphans.contains n = true
  · rw [if_neg h1, if_neg h2, if_neg h3, if_pos h4] at e; subst e; exact Or.inl ⟨rfl, _, rfl⟩
  · rw [if_neg h1, if_neg h2, if_neg h3, if_neg h4] at e; subst e
    exact Or.inr ⟨Decidable.not_not.mp h3, Nat.le_of_not_lt h2, rfl⟩

end Rep
end Jiva
