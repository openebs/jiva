import JivaVerif.Model.Controller
import JivaVerif.Lemmas.CtlIte
/-! Invariant of the controller's membership bookkeeping.  `Frame c c'`: the fields it reads are the same
    in `c'`; logging, registration and election, the size adoption and the frontend are frame steps.
    `buildReadWriters`, `UpdateVolStatus` and `UpdateCheckpoint` each re-establish one clause of it. -/
namespace Jiva
namespace Ctl

def key (b : Backend) : String × CMode := (b.addr, b.mode)

def Status (c : Ctl) : Prop :=
  c.readOnly = !(decide (rwOf c.replicas ≥ c.rf / 2 + 1)) ∧ c.rwCount = rwOf c.replicas

structure CCore (c : Ctl) : Prop where
  rfPos   : 1 ≤ c.rf
  nodup   : (c.replicas.map (·.1)).Nodup
  agree   : c.backends.map key = c.replicas
  fanout  : c.writers = (c.backends.filter fun b => b.mode ≠ .err).map (fun b => (b.addr, b.id)) ∧
            c.readers = (c.backends.filter fun b => b.mode = .rw).map (fun b => (b.addr, b.id)) ∧
            c.available = !((c.backends.filter fun b => b.mode = .rw).map (fun b => (b.addr, b.id))).isEmpty
  oneWO   : (c.replicas.filter fun r => r.2 = .wo).length ≤ 1
  lenRf   : c.replicas.length ≤ c.rf
  idsLt   : (∀ b ∈ c.backends, b.id < c.nextId) ∧ (∀ i ∈ c.closed, i < c.nextId)
  idsLive : ∀ b ∈ c.backends, b.id ∉ c.closed
  idsNodup: (c.backends.map (·.id)).Nodup

def CkptOk (c : Ctl) : Prop := c.checkpoint ≠ "" → c.replicas.length = c.rf

structure CInv (c : Ctl) : Prop where
  core   : CCore c
  status : Status c
  ckpt   : CkptOk c

structure Frame (c c' : Ctl) : Prop where
  rf         : c'.rf = c.rf
  replicas   : c'.replicas = c.replicas
  backends   : c'.backends = c.backends
  writers    : c'.writers = c.writers
  readers    : c'.readers = c.readers
  available  : c'.available = c.available
  readOnly   : c'.readOnly = c.readOnly
  rwCount    : c'.rwCount = c.rwCount
  checkpoint : c'.checkpoint = c.checkpoint
  nextId     : c'.nextId = c.nextId
  closed     : c'.closed = c.closed

theorem Frame.set (c : Ctl) (rg : List Reg) (mr : String) (sg : Bool) (sz : Nat) (fu : Bool)
    (cl : List (Nat × String)) (sn : List (String × String × Bool)) :
    Frame c { c with registered := rg, maxRev := mr, signalled := sg, size := sz, frontUp := fu,
                     calls := cl, signals := sn } :=
  ⟨rfl, rfl, rfl, rfl, rfl, rfl, rfl, rfl, rfl, rfl, rfl⟩

theorem Frame.refl (c : Ctl) : Frame c c := ⟨rfl, rfl, rfl, rfl, rfl, rfl, rfl, rfl, rfl, rfl, rfl⟩

theorem Frame.trans {a b c : Ctl} (f : Frame a b) (g : Frame b c) : Frame a c :=
  ⟨g.rf.trans f.rf, g.replicas.trans f.replicas, g.backends.trans f.backends, g.writers.trans f.writers,
   g.readers.trans f.readers, g.available.trans f.available, g.readOnly.trans f.readOnly,
   g.rwCount.trans f.rwCount, g.checkpoint.trans f.checkpoint, g.nextId.trans f.nextId,
   g.closed.trans f.closed⟩

theorem CCore.frame {c c' : Ctl} (h : CCore c) (f : Frame c c') : CCore c' := by
  refine ⟨?_, ?_, ?_, ?_, ?_, ?_, ?_, ?_, ?_⟩
  · rw [f.rf]; exact h.rfPos
  · rw [f.replicas]; exact h.nodup
  · rw [f.replicas, f.backends]; exact h.agree
  · rw [f.backends, f.writers, f.readers, f.available]; exact h.fanout
  · rw [f.replicas]; exact h.oneWO
  · rw [f.rf, f.replicas]; exact h.lenRf
  · rw [f.backends, f.nextId, f.closed]; exact h.idsLt
  · rw [f.backends, f.closed]; exact h.idsLive
  · rw [f.backends]; exact h.idsNodup

theorem CInv.frame {c c' : Ctl} (h : CInv c) (f : Frame c c') : CInv c' :=
  ⟨h.core.frame f, by unfold Status; rw [f.rf, f.replicas, f.readOnly, f.rwCount]; exact h.status,
   by unfold CkptOk; rw [f.checkpoint, f.replicas, f.rf]; exact h.ckpt⟩

theorem CInv.irrelevant {c c' : Ctl} (h : CInv c)
    (e1 : c'.rf = c.rf) (e2 : c'.replicas = c.replicas) (e3 : c'.backends = c.backends)
    (e4 : c'.writers = c.writers) (e5 : c'.readers = c.readers) (e6 : c'.available = c.available)
    (e7 : c'.readOnly = c.readOnly) (e8 : c'.rwCount = c.rwCount) (e9 : c'.checkpoint = c.checkpoint)
    (e10 : c'.nextId = c.nextId) (e11 : c'.closed = c.closed) : CInv c' :=
  h.frame ⟨e1, e2, e3, e4, e5, e6, e7, e8, e9, e10, e11⟩

theorem cinv_init (rf : Nat) (h : 1 ≤ rf) : CInv (Ctl.init rf) := by
  refine ⟨⟨h, ?_, ?_, ?_, ?_, ?_, ?_, ?_, ?_⟩, ?_, ?_⟩ <;> simp [Ctl.init, rwOf, Status, CkptOk]

theorem foldl_call {α : Type} (l : List α) (f : α → Nat) (m : String) (c : Ctl) :
    l.foldl (fun c x => c.call (f x) m) c = { c with calls := c.calls ++ l.map fun x => (f x, m) } := by
  induction l generalizing c with
  | nil => simp
  | cons x xs ih => rw [List.foldl_cons, ih]; simp [call]

theorem frame_call (c : Ctl) (i : Nat) (m : String) : Frame c (c.call i m) := .set ..

theorem frame_calls (c : Ctl) {α : Type} (l : List α) (f : α → Nat) (m : String) :
    Frame c (l.foldl (fun c x => c.call (f x) m) c) := by
  rw [foldl_call]; exact .set ..

theorem frame_readCalls (c : Ctl) (t : List (String × Out)) : Frame c (c.readCalls t) :=
  List.foldlRecOn t _ (.set ..) fun d hd _ _ => hd.trans (by split <;> exact .set ..)

theorem ccore_calls (c : Ctl) (h : CCore c) {α : Type} (l : List α) (f : α → Nat) (m : String) :
    CCore (l.foldl (fun c x => c.call (f x) m) c) :=
  h.frame (frame_calls c l f m)

theorem frame_adoptSize (c : Ctl) (s : Nat) : Frame c (c.adoptSize s) :=
  iteInduction (fun _ => .set ..) fun _ => .refl c

theorem frame_startFront (c : Ctl) : Frame c c.startFront :=
  iteInduction (fun _ => .set ..) fun _ => .refl c

theorem frame_dropLeader (c : Ctl) : Frame c c.dropLeader := .set ..

theorem frame_signalReplica (c : Ctl) (ok : Bool) : Frame c (c.signalReplica ok).1 := by
  unfold signalReplica
  split <;> exact .set ..

theorem cinv_signalReplica (c : Ctl) (h : CInv c) (ok : Bool) : CInv (c.signalReplica ok).1 :=
  h.frame (frame_signalReplica c ok)

theorem frame_electAndSignal (c : Ctl) (r : Reg) (so : Bool) (el : String) :
    Frame c (c.electAndSignal r so el).1 := by
  simp only [electAndSignal, apply_ite Prod.fst]
  exact iteInduction (fun _ => .refl c) fun _ =>                                           -- rebuilding
    iteInduction (fun _ => .refl c) fun _ =>                                               -- not a legal winner
      iteInduction (fun _ => Frame.trans (.set ..) (frame_signalReplica _ so)) fun _ =>    -- a majority has registered
        .set ..

theorem frame_stepRegister (c : Ctl) (r : Reg) (so al : Bool) (el : String) :
    Frame c (c.stepRegister r so al el).1 := by
  simp only [stepRegister, apply_ite Prod.fst]
  have f1 : ∀ regs, Frame c ({ c with registered := regs } : Ctl) := fun _ => .set ..
  have elect {d : Ctl} (f : Frame c d) : Frame c (d.electAndSignal r so el).1 := f.trans (frame_electAndSignal ..)
  exact iteInduction (fun _ => .refl c) fun _ =>                                           -- no uuid
    iteInduction (fun _ => f1 _) fun _ =>                                                  -- the volume is up
      iteInduction (fun _ =>                                                               -- a leader was signalled:
          iteInduction (fun _ =>                                                           -- it registers again
              iteInduction (fun _ => elect ((f1 _).trans (frame_signalReplica _ so)))      -- signalled again
                fun _ => (f1 _).trans (frame_signalReplica _ so))                     -- the signal failed
            fun _ => iteInduction (fun _ => elect (.set ..)) fun _ => f1 _)                -- it is unreachable; alive
        fun _ => elect (f1 _)

theorem ccore_rebuild (c : Ctl) (h : CCore c) : CCore c.rebuild :=
  { h with fanout := ⟨rfl, rfl, rfl⟩ }

theorem CCore.rebuild_eq {c : Ctl} (h : CCore c) : c.rebuild = c := by
  obtain ⟨h1, h2, h3⟩ := h.fanout
  unfold rebuild
  simp only
  rw [← h3, ← h1, ← h2]

theorem ccore_rebuild_of (c : Ctl) (rfPos : 1 ≤ c.rf) (nodup : (c.replicas.map (·.1)).Nodup)
    (agree : c.backends.map key = c.replicas)
    (oneWO : (c.replicas.filter fun r => r.2 = .wo).length ≤ 1) (lenRf : c.replicas.length ≤ c.rf)
    (idsLt : (∀ b ∈ c.backends, b.id < c.nextId) ∧ (∀ i ∈ c.closed, i < c.nextId))
    (idsLive : ∀ b ∈ c.backends, b.id ∉ c.closed) (idsNodup : (c.backends.map (·.id)).Nodup) : CCore c.rebuild :=
  ⟨rfPos, nodup, agree, ⟨rfl, rfl, rfl⟩, oneWO, lenRf, idsLt, idsLive, idsNodup⟩

theorem ccore_updateVolStatus (c : Ctl) (h : CCore c) : CCore c.updateVolStatus := { h with }

theorem status_updateVolStatus (c : Ctl) : Status c.updateVolStatus := ⟨rfl, rfl⟩

theorem cinv_updateVolStatus (c : Ctl) (h : CCore c) (hk : CkptOk c) : CInv c.updateVolStatus :=
  ⟨ccore_updateVolStatus c h, status_updateVolStatus c, hk⟩

theorem rwOf_le (l : List (String × CMode)) : rwOf l ≤ l.length := List.length_filter_le _ _

theorem updateCheckpoint_shape (c : Ctl) (e : CkEnv) :
    ∃ s l, c.updateCheckpoint e = { c with checkpoint := s, calls := c.calls ++ l } := by
  have stay : ∃ s l, ({ c with checkpoint := "" } : Ctl) = { c with checkpoint := s, calls := c.calls ++ l } :=
    ⟨"", [], by rw [List.append_nil]⟩
  unfold updateCheckpoint
  split
  · cases latestAgreed c e with
    | none => exact stay
    | some s =>
      simp only [foldl_call _ Backend.id]
      split <;> exact ⟨_, _, rfl⟩
  · exact stay

theorem updateVolStatus_replicas (c : Ctl) : c.updateVolStatus.replicas = c.replicas := rfl

theorem updateCheckpoint_replicas (c : Ctl) (e : CkEnv) : (c.updateCheckpoint e).replicas = c.replicas := by
  obtain ⟨s, l, h⟩ := updateCheckpoint_shape c e
  rw [h]

@[simp] theorem updateCheckpoint_rf (c : Ctl) (e : CkEnv) : (c.updateCheckpoint e).rf = c.rf := by
  obtain ⟨s, l, h⟩ := updateCheckpoint_shape c e
  rw [h]

theorem updateCheckpoint_sound (c : Ctl) (e : CkEnv) (hne : (c.updateCheckpoint e).checkpoint ≠ "") :
    rwOf c.replicas = c.rf ∧ latestAgreed c e = some (c.updateCheckpoint e).checkpoint ∧
    ((c.backends.filter fun b => b.mode = .rw).all fun b => lookupD e.setOk b.addr true) = true := by
  unfold updateCheckpoint at hne ⊢
  split at hne
  · rename_i hrw
    split at hne
    · rename_i s hs
      simp only at hne
      split at hne
      · rename_i hall
        simp only [hrw, hs, if_true, hall, and_self]
      · exact absurd rfl hne
    · exact absurd rfl hne
  · exact absurd rfl hne

/-- `UpdateCheckpoint` re-establishes the checkpoint clause whatever it was before: it records one only
    when all RF replicas are RW, and the list holds at most RF -/
theorem cinv_updateCheckpoint (c : Ctl) (h : CCore c) (hs : Status c) (e : CkEnv) : CInv (c.updateCheckpoint e) := by
  have hr := fun hne => (updateCheckpoint_sound c e hne).1
  obtain ⟨s, l, e1⟩ := updateCheckpoint_shape c e
  rw [e1] at hr ⊢
  exact ⟨{ h with }, hs, fun hne => Nat.le_antisymm h.lenRf (hr hne ▸ rwOf_le c.replicas)⟩

end Ctl
end Jiva
