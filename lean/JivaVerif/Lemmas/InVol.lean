import JivaVerif.Lemmas.Remove
import JivaVerif.Lemmas.Reopen
import JivaVerif.Model.Ops
/-! No chain file holds a block outside the volume (needed for "the added range reads zero"). -/
namespace Jiva
namespace DD
variable {β : Type}

def InVol (d : DD β) : Prop := ∀ i b, d.nb ≤ b → (d.files i).alloc b = false

theorem InVol.of_held {d d' : DD β} (hv : InVol d) (hn : d.nb ≤ d'.nb)
    (h : ∀ i b, (d'.files i).alloc b = true → (∃ j, (d.files j).alloc b = true) ∨ b < d'.nb) : InVol d' := by
  refine fun i b hb => Bool.eq_false_iff.mpr fun a => ?_
  rcases h i b a with ⟨j, a⟩ | c
  · rw [hv j b (Nat.le_trans hn hb)] at a; cases a
  · exact Nat.not_lt.mpr hb c

variable [Inhabited β]

theorem inVol_init (bs nb : Nat) : InVol (DD.init bs nb : DD β) := by
  intro i b _; simp [init, File.empty]

theorem inVol_step (d : DD β) (h : WF d) (hv : InVol d) (op : Op β) (ha : Adm d op) :
    InVol (d.step op) := by
  cases op with
  | write off len buf =>
    have w := writeOk_write d h off len buf ha
    exact hv.of_held (Nat.le_of_eq w.nb.symm) fun i b a => (w.alloc i b a).imp (fun a => ⟨i, a⟩) fun c => w.nb ▸ c
  | read off len =>
    show InVol (d.memoRange _ _)
    rw [memoRange_eq]; exact hv
  | coalesce k =>
    exact hv.of_held (Nat.le_refl _) fun i b a =>
      Or.inl (((coalesce_holds d k i b).mp a).elim (fun a => ⟨i, a⟩) fun a => ⟨k, a.2⟩)
  | removeIdx k =>
    intro i b hb
    show (shift k d.files i).alloc b = false
    rw [shift_eq]; exact hv _ b hb
  | applyHole j =>
    show InVol (d.applyHole j)
    rcases applyHole_cases d j with e | ⟨f, b0, _, e⟩ <;> rw [e]
    · exact hv
    · exact hv.of_held (Nat.le_refl _) fun i b a => Or.inl ⟨i, ((punched_holds d.files f b0 i b).mp a).1⟩
  | reopen pre =>
    show InVol (d.reopen pre)
    rw [reopen_eq]; exact hv
  | revert k =>
    show InVol (d.revert k)
    rw [revert_eq, reopen_eq]
    intro i b hb
    show (if i ≤ k then d.files i else File.empty).alloc b = false
    split
    · exact hv i b hb
    · rfl
  | resize nb => exact fun i b hb => hv i b (Nat.le_trans ha hb)
  | snapshot _ | markRemoved _ | dropHoles | setPunch _ | lunmap => exact hv

theorem view_zero_outside (d : DD β) (hv : InVol d) (i u : Nat) (hu : d.nb ≤ u / d.bs) :
    d.view i u = default :=
  viewUpTo_of_none d.files d.bs u i (fun j _ => hv j (u / d.bs) hu)

end DD
end Jiva
