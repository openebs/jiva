/-! Facts about core `List` that core does not state. -/
namespace List

theorem inj_of_nodup_map {α β : Type} {f : α → β} {l : List α} (nd : (l.map f).Nodup) {a b : α}
    (ha : a ∈ l) (hb : b ∈ l) (e : f a = f b) : a = b :=
  have p := List.pairwise_map.1 nd
  List.Pairwise.forall_of_forall_of_flip (R := fun a b => f a = f b → a = b) (fun _ _ _ => rfl)
    (p.imp fun h e => absurd e h) (p.imp fun h e => absurd e.symm h) ha hb e

theorem nodup_map_snoc {α β : Type} {f : α → β} {l : List α} {x : α} (nd : (l.map f).Nodup)
    (hx : ∀ y ∈ l, f y ≠ f x) : ((l ++ [x]).map f).Nodup := by
  rw [List.map_append, List.nodup_append]
  refine ⟨nd, List.pairwise_singleton _ _, fun b hb b' hb' => ?_⟩
  obtain ⟨y, hy, rfl⟩ := List.mem_map.mp hb
  rw [List.mem_singleton.mp hb']
  exact hx y hy

theorem filter_le_one_unique {α : Type} (l : List α) (p : α → Bool) (h : (l.filter p).length ≤ 1)
    (x y : α) (hx : x ∈ l) (hy : y ∈ l) (px : p x = true) (py : p y = true) : x = y := by
  have mx : x ∈ l.filter p := List.mem_filter.mpr ⟨hx, px⟩
  have my : y ∈ l.filter p := List.mem_filter.mpr ⟨hy, py⟩
  generalize l.filter p = f at h mx my
  match f, h with
  | [], _ => cases mx
  | [z], _ =>
    have e1 : x = z := by simpa using mx
    have e2 : y = z := by simpa using my
    rw [e1, e2]
  | _ :: _ :: _, h => simp at h

theorem foldl_max_ge {α : Type} (f : α → Nat) (l : List α) (m : Nat) :
    m ≤ l.foldl (fun m x => max m (f x)) m ∧ ∀ x ∈ l, f x ≤ l.foldl (fun m x => max m (f x)) m := by
  induction l generalizing m with
  | nil => exact ⟨Nat.le_refl _, fun _ h => nomatch h⟩
  | cons y ys ih =>
    obtain ⟨h1, h2⟩ := ih (max m (f y))
    refine ⟨Nat.le_trans (Nat.le_max_left ..) h1, fun x hx => ?_⟩
    rcases List.mem_cons.mp hx with rfl | hx
    · exact Nat.le_trans (Nat.le_max_right ..) h1
    · exact h2 x hx

theorem countP_le_add_count {α : Type} [BEq α] [LawfulBEq α] (p q : α → Bool) (i : α) (hq : ∀ j, j ≠ i → q j = p j)
    (l : List α) : l.countP q ≤ l.countP p + l.count i := by
  induction l with
  | nil => exact Nat.le_refl _
  | cons x xs ih =>
    rw [List.countP_cons, List.countP_cons, List.count_cons]
    by_cases e : x = i
    · rw [if_pos (beq_iff_eq.mpr e)]; split <;> omega
    · rw [hq x e]; omega

end List
