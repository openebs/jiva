import JivaVerif.Lemmas.Inv
/-! Reads, `snapshot`, `markRemoved` and the reclaimer's steps: each keeps the invariant; what each does to the views. -/
namespace Jiva
namespace DD
variable {β : Type}

theorem wf_memoRange (d : DD β) (h : WF d) (b0 : Nat) : ∀ cnt, WF (d.memoRange b0 cnt) := by
  intro cnt; induction cnt with
  | zero => exact h
  | succ n ih => exact wf_memo _ ih _

theorem memoRange_eq (d : DD β) (b0 : Nat) : ∀ n, d.memoRange b0 n = { d with loc := (d.memoRange b0 n).loc }
  | 0 => rfl
  | n + 1 => by rw [memoRange, memo_eq, memoRange_eq d b0 n]

theorem ur_snapshot (d : DD β) (user : Bool) (i : Nat) :
    (d.snapshot user).ur i = if i = d.top then user else if i = d.top + 1 then false else d.ur i := by
  unfold ur snapshot
  by_cases e1 : i = d.top
  · simp [e1]
  · by_cases e2 : i = d.top + 1 <;> simp [e1, e2]

theorem wf_snapshot (d : DD β) (h : WF d) (user : Bool) : WF (d.snapshot user) := by
  have sel : ∀ (f : Nat → Bool) i, (if i = d.top then user else if i = d.top + 1 then false else f i) = true →
      (i = d.top ∧ user = true) ∨ f i = true := by
    intro f i hi
    by_cases e1 : i = d.top
    · rw [if_pos e1] at hi; exact Or.inl ⟨e1, hi⟩
    · rw [if_neg e1] at hi
      by_cases e2 : i = d.top + 1
      · rw [if_pos e2] at hi; cases hi
      · rw [if_neg e2] at hi; exact Or.inr hi
  have ur' : ∀ i, (d.snapshot user).ur i = true → (i = d.top ∧ user = true) ∨ (i < d.top ∧ d.ur i = true) :=
    fun i hi => (sel d.ur i (ur_snapshot d user i ▸ hi)).imp_right fun hu => ⟨h.urLt i hu, hu⟩
  have hloc : ∀ b, d.loc b ≠ 0 → LocOk (d.snapshot user) b (d.loc b) := fun b hb =>
    have ⟨l1, l2, l3⟩ := h.locOk b hb
    ⟨Nat.le_succ_of_le l1, l2, l3⟩
  refine ⟨h.bs_pos, Nat.le_succ_of_le h.top_pos, h.empty0, fun i hi b => ?_, hloc, h.locOut, fun i hi => ?_,
    fun i hi => ?_, fun i hi => ?_, fun i hi => ?_, fun p hp => ?_⟩
  · exact h.emptyAbove i (by have : d.top + 1 < i := hi; omega) b
  · show i ≤ (if user then d.top else d.snapIdx)
    rcases ur' i hi with ⟨e, hu⟩ | ⟨hl, hu⟩
    · rw [hu, e]; exact Nat.le_refl _
    · have := h.urLe i hu
      split <;> omega
  · show 1 ≤ i ∧ i < d.top + 1
    rcases sel d.uc i hi with ⟨e, _⟩ | hu
    · have := h.top_pos; omega
    · have := h.ucLt i hu; omega
  · show (if i = d.top + 1 then user else d.marks i) = true ∨
         (if i + 1 = d.top + 1 then user else d.marks (i + 1)) = true
    rcases ur' i hi with ⟨e, hu⟩ | ⟨hl, hu⟩
    · right; rw [if_pos (by omega)]; exact hu
    · rw [if_neg (by omega), if_neg (by omega)]; exact h.markCover i hu
  · have hi' : d.top + 1 < i := hi
    show (if i = d.top + 1 then user else d.marks i) = false
    rw [if_neg (by omega)]; exact h.marksAbove i (by omega)
  · -- the new head is empty: what shadows the block for the old head shadows it for the new one
    exact (h.pendOk p hp).mono (hloc p.2) (Nat.le_succ _)
      (fun u hu => (ur' u hu).symm.imp And.right fun e => Nat.le_of_eq e.1.symm) fun _ => id

theorem ur_markRemoved (d : DD β) (k i : Nat) : (d.markRemoved k).ur i = (d.ur i && !decide (i = k)) := by
  unfold ur markRemoved
  by_cases e : i = k <;> simp [e]

theorem wf_markRemoved (d : DD β) (h : WF d) (k : Nat) : WF (d.markRemoved k) := by
  have sub : ∀ i, (d.markRemoved k).ur i = true → d.ur i = true := fun i hi => by
    rw [ur_markRemoved, Bool.and_eq_true] at hi; exact hi.1
  refine ⟨h.bs_pos, h.top_pos, h.empty0, h.emptyAbove, h.locOk, h.locOut,
    fun i hi => h.urLe i (sub i hi), h.ucLt, fun i hi => h.markCover i (sub i hi), h.marksAbove,
    fun p hp => (h.pendOk p hp).mono (h.locOk p.2) (Nat.le_refl _) (fun u hu => Or.inl (sub u hu)) fun _ => id⟩

theorem applyHole_cases (d : DD β) (i : Nat) :
    d.applyHole i = d ∨ ∃ f b, d.pend[i]? = some (f, b) ∧
      d.applyHole i = { d with files := fun j => if j = f then (d.files f).punch b else d.files j
                               pend  := d.pend.eraseIdx i } := by
  unfold applyHole
  cases hq : d.pend[i]? with
  | none => left; rfl
  | some p => right; exact ⟨p.1, p.2, rfl, rfl⟩

theorem applyHole_eq (d : DD β) (i : Nat) : d.applyHole i =
    { d with files := (d.applyHole i).files, pend := (d.applyHole i).pend } := by
  unfold applyHole; split <;> rfl

theorem punch_alloc (f : File β) (b b' : Nat) :
    (f.punch b).alloc b' = if b' = b then false else f.alloc b' := rfl

theorem punched_holds (files : Nat → File β) (f b j b' : Nat) :
    ((if j = f then (files f).punch b else files j)).alloc b' = true ↔
      (files j).alloc b' = true ∧ ¬ (j = f ∧ b' = b) := by
  by_cases e : j = f
  · subst e; by_cases e' : b' = b <;> simp [punch_alloc, e']
  · simp [e]

theorem wf_applyHole (d : DD β) (h : WF d) (i : Nat) : WF (d.applyHole i) := by
  rcases applyHole_cases d i with e | ⟨f, b, hq, e⟩
  · rw [e]; exact h
  rw [e]
  have ⟨_, g1, g2⟩ := h.pendOk _ (List.mem_of_getElem? hq)
  have al := punched_holds d.files f b
  have mono := fun j b' a => ((al j b').mp a).1
  have keep := fun j b' c hh => (al j b').mpr ⟨hh, c⟩
  have anti : ∀ j b', (d.files j).alloc b' = false →
      ((if j = f then (d.files f).punch b else d.files j)).alloc b' = false :=
    fun j b' hh => Bool.eq_false_iff.mpr fun a => by rw [mono j b' a] at hh; cases hh
  refine ⟨h.bs_pos, h.top_pos, fun b' => anti 0 b' (h.empty0 b'), fun j hj b' => anti j b' (h.emptyAbove j hj b'),
    fun b' hb' => ?_, h.locOut, h.urLe, h.ucLt, h.markCover, h.marksAbove, fun p hp => ?_⟩
  · -- the entry of the punched block does not point at the punched file
    refine (h.locOk b' hb').sink (Nat.le_refl _) (fun j a => ⟨j, Nat.le_refl j, mono j b' a⟩) (keep _ _ fun c => ?_)
    have hb0 : d.loc b' ≠ 0 := hb'
    rw [c.2] at hb0 c
    exact g1.elim hb0 fun g1 => Nat.lt_irrefl f (c.1 ▸ g1)
  · have ⟨q0, q1, q2⟩ := h.pendOk p (List.mem_of_mem_eraseIdx hp)
    refine ⟨q0, q1, fun u hu hfu => ?_⟩
    have ⟨hh, a1, a2, a3⟩ := q2 u hu hfu
    by_cases c : hh = f ∧ p.2 = b
    · -- the witness is the punched block: take the holder above it
      have ⟨h2, b1, b2, b3⟩ := g2 u hu (by omega)
      exact ⟨h2, by omega, b2, keep h2 p.2 (by omega) (c.2 ▸ b3)⟩
    · exact ⟨hh, a1, a2, keep hh p.2 c a3⟩

variable [Inhabited β]

theorem view_read (d : DD β) (off len i u : Nat) : (d.read off len).1.view i u = d.view i u := by
  show (d.memoRange _ _).view i u = _
  rw [memoRange_eq]; rfl

/-- A snapshot changes no view; the new snapshot (index `d.top`) shows the live image. -/
theorem view_snapshot (d : DD β) (user : Bool) (i u : Nat) : (d.snapshot user).view i u = d.view i u := rfl

theorem live_snapshot (d : DD β) (h : WF d) (user : Bool) (u : Nat) :
    (d.snapshot user).live u = d.live u := by
  show viewUpTo d.files d.bs (d.top + 1) u = viewUpTo d.files d.bs d.top u
  rw [viewUpTo_succ, h.emptyAbove (d.top + 1) (Nat.lt_succ_self _)]
  exact if_neg Bool.false_ne_true

theorem view_markRemoved (d : DD β) (k i u : Nat) : (d.markRemoved k).view i u = d.view i u := rfl

/-- **C06 core.** A punch applied by the reclaimer — at any later time — changes neither the live
    volume nor any retained user-created snapshot. -/
theorem view_applyHole (d : DD β) (h : WF d) (i u x : Nat) (hu : d.ur u = true ∨ u = d.top) :
    (d.applyHole i).view u x = d.view u x := by
  rcases applyHole_cases d i with e | ⟨f, b, hq, e⟩
  · rw [e]
  rw [e]
  by_cases c : f ≤ u ∧ x / d.bs = b
  · -- the view sees the block through a holder above the punched file
    have ⟨hh, a1, a2, a3⟩ := (h.pendOk _ (List.mem_of_getElem? hq)).2.2 u hu c.1
    exact (viewUpTo_congr_below d.files _ d.bs x f u ⟨hh, a1, a2, c.2 ▸ a3⟩ fun j hj => (if_neg hj).symm).symm
  · refine viewUpTo_congr _ _ _ _ _ fun j _ hj => ?_
    dsimp only
    by_cases e1 : j = f
    · subst e1
      have hb : x / d.bs ≠ b := fun e => c ⟨hj, e⟩
      rw [if_pos rfl]
      exact ⟨if_neg hb, fun _ => rfl⟩
    · rw [if_neg e1]
      exact ⟨rfl, fun _ => rfl⟩

theorem live_applyHole (d : DD β) (h : WF d) (j u : Nat) : (d.applyHole j).live u = d.live u := by
  have et : (d.applyHole j).top = d.top := by rw [applyHole_eq]
  unfold live
  rw [et]
  exact view_applyHole d h j d.top u (Or.inr rfl)

end DD
end Jiva
