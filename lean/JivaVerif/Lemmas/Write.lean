import JivaVerif.Lemmas.Inv
/-! `fullWriteAt`, `readModifyWrite`, `WriteAt`: each is a `WriteOk` step, and `WriteOk` steps compose. -/
namespace Jiva
namespace DD
variable {β : Type}

theorem mem_writeHoles (d : DD β) (s : Nat) : ∀ n p, p ∈ writeHoles d s n →
    s ≤ p.2 ∧ p.2 < s + n ∧ p.1 = d.loc p.2 ∧ p.1 ≠ 0 ∧ p.1 ≠ d.top ∧ d.snapIdx < p.1
  | 0, p, hp => by cases hp
  | n + 1, p, hp => by
    have older : p ∈ writeHoles d s n → _ := fun hp =>
      let ⟨a, b, c⟩ := mem_writeHoles d s n p hp
      (⟨a, Nat.lt_succ_of_lt b, c⟩ : s ≤ p.2 ∧ p.2 < s + (n + 1) ∧ _)
    rw [writeHoles] at hp
    by_cases c : d.loc (s + n) ≠ 0 ∧ d.loc (s + n) ≠ d.top ∧ d.snapIdx < d.loc (s + n) ∧ d.punch = true
    · rw [if_pos c] at hp
      rcases List.mem_append.mp hp with hp | hp
      · exact older hp
      · cases List.mem_singleton.mp hp
        exact ⟨Nat.le_add_right s n, Nat.lt_succ_self _, rfl, c.1, c.2.1, c.2.2.1⟩
    · rw [if_neg c] at hp; exact older hp

theorem fullWrite_alloc (d : DD β) (s n : Nat) (buf : Nat → β) (i b : Nat) :
    ((d.fullWrite s n buf).files i).alloc b =
      if i = d.top ∧ s ≤ b ∧ b < s + n then true else (d.files i).alloc b := by
  unfold fullWrite File.writeBlocks
  by_cases hi : i = d.top
  · subst hi; simp
  · simp [hi]

theorem wf_fullWrite (d : DD β) (h : WF d) (s n : Nat) (buf : Nat → β) (hr : s + n ≤ d.nb) :
    WF (d.fullWrite s n buf) := by
  have hmono : ∀ i b, (d.files i).alloc b = true → ((d.fullWrite s n buf).files i).alloc b = true := by
    intro i b hb
    rw [fullWrite_alloc]
    by_cases c : i = d.top ∧ s ≤ b ∧ b < s + n
    · exact if_pos c
    · rw [if_neg c]; exact hb
  have hsame : ∀ i b, ¬ (i = d.top ∧ s ≤ b ∧ b < s + n) →
      ((d.fullWrite s n buf).files i).alloc b = (d.files i).alloc b := fun i b c => by rw [fullWrite_alloc, if_neg c]
  have hlocOk : ∀ b, (d.fullWrite s n buf).loc b ≠ 0 → LocOk (d.fullWrite s n buf) b ((d.fullWrite s n buf).loc b) := by
    intro b hb
    have e : (d.fullWrite s n buf).loc b = if s ≤ b ∧ b < s + n then d.top else d.loc b := rfl
    rw [e] at hb ⊢
    by_cases hin : s ≤ b ∧ b < s + n
    · rw [if_pos hin]
      exact ⟨Nat.le_refl _, fun j hj => (hsame j b (by omega)).trans (h.emptyAbove j hj b),
        Or.inl (by rw [fullWrite_alloc, if_pos ⟨rfl, hin⟩])⟩
    · rw [if_neg hin] at hb ⊢
      have same := fun j => hsame j b fun c => hin c.2
      exact (h.locOk b hb).sink (Nat.le_refl _) (fun j a => ⟨j, Nat.le_refl j, same j ▸ a⟩) fun a => (same _).symm ▸ a
  refine ⟨h.bs_pos, h.top_pos, fun b => (hsame 0 b (by have := h.top_pos; omega)).trans (h.empty0 b),
    fun i hi b => (hsame i b (by have : d.top < i := hi; omega)).trans (h.emptyAbove i hi b), hlocOk, fun b hb => ?_,
    h.urLe, h.ucLt, h.markCover, h.marksAbove, fun p hp => ?_⟩
  · show (if s ≤ b ∧ b < s + n then d.top else d.loc b) = 0
    have hb' : d.nb ≤ b := hb
    rw [if_neg (by omega)]; exact h.locOut b hb'
  rcases List.mem_append.mp (show p ∈ d.pend ++ writeHoles d s n from hp) with hp | hp
  · exact (h.pendOk p hp).mono (hlocOk p.2) (Nat.le_refl _) (fun _ => Or.inl) fun j => hmono j p.2
  · -- a shadowed copy lies in a snapshot file above the latest user-created snapshot, and the head now holds the block
    have ⟨m1, m2, m3, m4, m5, m6⟩ := mem_writeHoles d s n p hp
    have := (h.locOk p.2 (m3 ▸ m4)).1
    refine HoleOk.of_shadowed (hlocOk p.2) ⟨show p.1 < d.top by omega, fun u hu hfu => ?_⟩
    rcases hu with hu | hu
    · have := h.urLe u hu; omega
    · exact ⟨d.top, by omega, Nat.le_of_eq hu.symm, by rw [fullWrite_alloc, if_pos ⟨rfl, m1, m2⟩]⟩

variable [Inhabited β]

theorem view_fullWrite_below (d : DD β) (s n : Nat) (buf : Nat → β) (i u : Nat) (hi : i < d.top) :
    (d.fullWrite s n buf).view i u = d.view i u := view_setHead_below d _ i u hi

theorem live_fullWrite (d : DD β) (h : WF d) (s n : Nat) (buf : Nat → β) (u : Nat) :
    (d.fullWrite s n buf).live u =
      if s ≤ u / d.bs ∧ u / d.bs < s + n then buf u else d.live u :=
  live_overlay d h.top_pos (fun b => s ≤ b ∧ b < s + n) buf u

/-- What a write of `buf` to the units `[off, off+len)` must achieve. -/
structure WriteOk (d d' : DD β) (off len : Nat) (buf : Nat → β) : Prop where
  wf    : WF d'
  live  : ∀ u, d'.live u = if off ≤ u ∧ u < off + len then buf u else d.live u
  below : ∀ i u, i < d.top → d'.view i u = d.view i u
  bs    : d'.bs = d.bs
  nb    : d'.nb = d.nb
  top   : d'.top = d.top
  same  : d'.uc = d.uc ∧ d'.rm = d.rm ∧ d'.marks = d.marks ∧ d'.snapIdx = d.snapIdx ∧ d'.punch = d.punch
  -- no block outside the volume becomes allocated: what `inVol_step` needs of a write
  alloc : ∀ i b, (d'.files i).alloc b = true → (d.files i).alloc b = true ∨ b < d.nb

/-- what the pair does to the live volume is said by the caller (`hl`) -/
theorem WriteOk.comp {d d1 d2 : DD β} {o1 l1 o2 l2 off len : Nat} {b1 b2 buf : Nat → β}
    (a : WriteOk d d1 o1 l1 b1) (b : WriteOk d1 d2 o2 l2 b2)
    (hl : ∀ u, (if o2 ≤ u ∧ u < o2 + l2 then b2 u else if o1 ≤ u ∧ u < o1 + l1 then b1 u else d.live u) =
               if off ≤ u ∧ u < off + len then buf u else d.live u) :
    WriteOk d d2 off len buf :=
  ⟨b.wf, fun u => by rw [b.live, a.live, hl], fun i u hi => (b.below i u (a.top ▸ hi)).trans (a.below i u hi),
   b.bs.trans a.bs, b.nb.trans a.nb, b.top.trans a.top,
   ⟨b.same.1.trans a.same.1, b.same.2.1.trans a.same.2.1, b.same.2.2.1.trans a.same.2.2.1,
    b.same.2.2.2.1.trans a.same.2.2.2.1, b.same.2.2.2.2.trans a.same.2.2.2.2⟩,
   fun i blk hh => (b.alloc i blk hh).elim (a.alloc i blk) fun c => Or.inr (a.nb ▸ c)⟩

theorem WriteOk.trans {d d1 d2 : DD β} {off l1 l2 : Nat} {buf : Nat → β}
    (a : WriteOk d d1 off l1 buf) (b : WriteOk d1 d2 (off + l1) l2 buf) :
    WriteOk d d2 off (l1 + l2) buf :=
  a.comp b fun u => by
    by_cases c1 : off + l1 ≤ u ∧ u < off + l1 + l2
    · rw [if_pos c1, if_pos (by omega)]
    · rw [if_neg c1]
      by_cases c2 : off ≤ u ∧ u < off + l1
      · rw [if_pos c2, if_pos (by omega)]
      · rw [if_neg c2, if_neg (by omega)]

theorem WriteOk.of_loc {d : DD β} (L : Nat → Nat) (h : WF { d with loc := L }) (off : Nat) (buf : Nat → β) :
    WriteOk d { d with loc := L } off 0 buf :=
  ⟨h, fun u => by rw [if_neg (by omega)]; rfl, fun _ _ _ => rfl, rfl, rfl, rfl, ⟨rfl, rfl, rfl, rfl, rfl⟩,
   fun _ _ hh => Or.inl hh⟩

theorem WriteOk.refl {d : DD β} (h : WF d) (off : Nat) (buf : Nat → β) : WriteOk d d off 0 buf :=
  WriteOk.of_loc d.loc h off buf

theorem writeOk_memo (d : DD β) (h : WF d) (b off : Nat) (buf : Nat → β) : WriteOk d (d.memo b) off 0 buf := by
  have w := wf_memo d h b
  rw [memo_eq] at w ⊢
  exact WriteOk.of_loc _ w off buf

theorem writeOk_fullWrite (d : DD β) (h : WF d) (s n : Nat) (buf : Nat → β) (hr : s + n ≤ d.nb) :
    WriteOk d (d.fullWrite s n buf) (s * d.bs) (n * d.bs) buf := by
  refine ⟨wf_fullWrite d h s n buf hr, fun u => ?_, fun i u hi => view_fullWrite_below d s n buf i u hi,
    rfl, rfl, rfl, ⟨rfl, rfl, rfl, rfl, rfl⟩, fun i b ha => ?_⟩
  · simp only [live_fullWrite d h, ← Nat.add_mul, Nat.le_div_iff_mul_le h.bs_pos, Nat.div_lt_iff_lt_mul h.bs_pos]
  · rw [fullWrite_alloc] at ha
    by_cases c : i = d.top ∧ s ≤ b ∧ b < s + n
    · exact Or.inr (by omega)
    · rw [if_neg c] at ha; exact Or.inl ha

theorem rmw_zero (d : DD β) (off : Nat) (buf : Nat → β) : d.rmw off 0 buf = d := if_pos rfl

theorem writeOk_rmw (d : DD β) (h : WF d) (off len : Nat) (buf : Nat → β) (hr : off + len ≤ d.nb * d.bs)
    (h1 : off % d.bs + len ≤ d.bs) : WriteOk d (d.rmw off len buf) off len buf := by
  by_cases hl : len = 0
  · subst hl; rw [rmw_zero]; exact WriteOk.refl h off buf
  · unfold rmw
    rw [if_neg hl]
    have hb : off / d.bs < d.nb := (Nat.div_lt_iff_lt_mul h.bs_pos).mpr (by omega)
    have w1 := writeOk_memo d h (off / d.bs) off buf
    refine w1.comp (writeOk_fullWrite _ w1.wf (off / d.bs) 1 _ (by rw [w1.nb]; omega)) fun u => ?_
    have hq := Nat.div_add_mod' off d.bs
    simp only [w1.bs, Nat.one_mul, show ¬ (off ≤ u ∧ u < off + 0) by omega, if_false]
    by_cases hin : off ≤ u ∧ u < off + len
    · rw [if_pos hin, if_pos hin, if_pos (by omega)]
    · rw [if_neg hin, if_neg hin]
      -- a unit of the block outside the request is written back as it was read
      by_cases c : off / d.bs * d.bs ≤ u ∧ u < off / d.bs * d.bs + d.bs
      · rw [if_pos c]
        exact readUnit_eq_live d h u (by rw [Nat.div_eq_of_lt_le c.1 (by rw [Nat.add_mul, Nat.one_mul]; exact c.2)]; exact hb)
      · rw [if_neg c]

theorem bounds_of_div_eq (bs q u : Nat) (hbs : 0 < bs) (h : u / bs = q) :
    q * bs ≤ u ∧ u < q * bs + bs := by
  have a := (Nat.le_div_iff_mul_le hbs (x := q) (y := u)).mp (by omega)
  have b := (Nat.div_lt_iff_lt_mul hbs (x := u) (y := q + 1)).mp (by omega)
  rw [Nat.succ_mul] at b
  exact ⟨a, b⟩

/-- block arithmetic of a request `[off, off+len)` that starts at unit `r` of block `q`, runs to the end of that
    block, over `n` whole blocks and `f` units into the next -/
theorem split3 (bs q r n f off len : Nat) (hr : r ≤ bs) (hq : q * bs + r = off)
    (he : (q + 1 + n) * bs + f = len + off) :
    off + (bs - r) = (q + 1) * bs ∧ len - (bs - r) - f = n * bs ∧ off + len - f = (q + 1 + n) * bs ∧
    bs - r + n * bs + f = len ∧ (q + 1 + n) * bs = off + (bs - r + n * bs) := by
  simp only [Nat.add_mul, Nat.one_mul] at he ⊢
  omega

theorem write_aligned (d : DD β) (off len : Nat) (buf : Nat → β) (hl : len ≠ 0) (h1 : off % d.bs = 0)
    (h2 : (len + off) % d.bs = 0) : d.write off len buf = d.fullWrite (off / d.bs) (len / d.bs) buf := by
  unfold write
  rw [if_neg hl, if_pos ⟨h1, h2⟩]

/-- **C01, write half.** `WriteAt` of any unit range inside the volume — whatever its alignment —
    updates exactly the units written, leaves every snapshot layer untouched and preserves the
    invariant. -/
theorem writeOk_write (d : DD β) (h : WF d) (off len : Nat) (buf : Nat → β)
    (hr : off + len ≤ d.nb * d.bs) : WriteOk d (d.write off len buf) off len buf := by
  have hbs := h.bs_pos
  have hq := Nat.div_add_mod' off d.bs
  have hrlt := Nat.mod_lt off hbs
  have he := Nat.div_add_mod' (len + off) d.bs
  unfold write
  by_cases hl : len = 0
  · rw [if_pos hl]; subst hl; exact WriteOk.refl h off buf
  rw [if_neg hl]
  by_cases hA : off % d.bs = 0 ∧ (len + off) % d.bs = 0
  · rw [if_pos hA]
    have e1 : off / d.bs * d.bs = off := by omega
    have e2 : len / d.bs * d.bs = len := by
      rw [← e1, Nat.add_mul_mod_self_right] at hA
      have := Nat.div_add_mod' len d.bs; omega
    have := writeOk_fullWrite d h (off / d.bs) (len / d.bs) buf
      (Nat.le_of_mul_le_mul_right (by rw [Nat.add_mul, e1, e2]; exact hr) hbs)
    rwa [e1, e2] at this
  rw [if_neg hA]
  by_cases hB : len ≤ d.bs - off % d.bs
  · rw [if_pos hB]
    exact writeOk_rmw d h off len buf hr (by omega)
  · -- to the end of the first block, whole blocks, the rest
    rw [if_neg hB]
    have hqe : off / d.bs + 1 ≤ (len + off) / d.bs :=
      (Nat.le_div_iff_mul_le hbs).mpr (by rw [Nat.add_mul, Nat.one_mul]; omega)
    have hcut : off + (d.bs - off % d.bs) ≤ d.nb * d.bs := by omega
    clear hB hA hl
    obtain ⟨n, hn⟩ := Nat.exists_eq_add_of_le hqe
    rw [hn] at he
    have hend : (off / d.bs + 1 + n) * d.bs + (len + off) % d.bs ≤ d.nb * d.bs := by rw [he, Nat.add_comm]; exact hr
    obtain ⟨a1, a2, a3, a4, a5⟩ := split3 d.bs _ _ n _ off len (Nat.le_of_lt hrlt) hq he
    have s1 := writeOk_rmw d h off (d.bs - off % d.bs) buf hcut (Nat.le_of_eq (Nat.add_sub_cancel' (Nat.le_of_lt hrlt)))
    have s2 := writeOk_fullWrite _ s1.wf (off / d.bs + 1) n buf (by
      rw [s1.nb]; exact Nat.le_of_mul_le_mul_right (Nat.le_trans (Nat.le_add_right _ _) hend) hbs)
    rw [s1.bs, ← a1] at s2
    have s12 := s1.trans s2
    rw [a1, a2, a3, Nat.mul_div_cancel _ hbs, Nat.mul_div_cancel _ hbs]
    have s3 := writeOk_rmw _ s12.wf ((off / d.bs + 1 + n) * d.bs) ((len + off) % d.bs) buf
      (by rw [s12.bs, s12.nb]; exact hend)
      (by rw [s12.bs, Nat.mul_mod_left, Nat.zero_add]; exact Nat.le_of_lt (Nat.mod_lt _ hbs))
    rw [a5] at s3 ⊢
    have := s12.trans s3
    rwa [a4] at this

end DD
end Jiva
