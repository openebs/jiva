import JivaVerif.Model.Cluster
/-!
# The whole-volume model: what its primitives and its steps do

`step_ind` gives every way a request changes the state, as rules with the guard as hypotheses: a proof about one step
supplies one case per rule and unfolds no `stepX`.  The registration with its election is also stated as a case
lemma (`stepReg_cases`).
-/
namespace Jiva.Cluster
namespace Sys

theorem node_setNode (s : Sys) (i : Nat) (nd : Node) (j : Nat) :
    (s.setNode i nd).node j = if j = i then nd else s.node j := rfl

theorem node_setNode_self (s : Sys) (i : Nat) (nd : Node) : (s.setNode i nd).node i = nd := if_pos rfl

theorem node_setNode_ne (s : Sys) (nd : Node) {i j : Nat} (h : j ≠ i) : (s.setNode i nd).node j = s.node j := if_neg h

theorem node_setNode_proj {α : Type} (f : Node → α) (s : Sys) (i : Nat) (nd : Node) (h : f nd = f (s.node i)) (j : Nat) :
    f ((s.setNode i nd).node j) = f (s.node j) := by
  rw [node_setNode]; split
  · rename_i e; rw [h, e]
  · rfl

theorem node_start (s : Sys) (e j : Nat) :
    (s.start e).node j = if j = e then { s.node e with att := .rw } else s.node j := rfl

theorem writeNode_eq (s : Sys) (f a : List Nat) (i : Nat) :
    s.writeNode f a i =
      { s.node i with
        log := if (s.node i).att = .rw ∧ (!f.contains i || a.contains i) then (s.node i).log ++ [s.next] else (s.node i).log
        rev := if (s.node i).att = .rw ∧ (!f.contains i || a.contains i) then (s.node i).rev + 1 else (s.node i).rev
        att := if f.contains i then .none else (s.node i).att } := by
  unfold writeNode
  generalize s.node i = nd
  obtain ⟨l, r, rb, rg, t, sn⟩ := nd
  cases t <;> cases f.contains i <;> cases a.contains i <;> rfl

theorem writeNode_rebuilding (s : Sys) (f a : List Nat) (i : Nat) :
    (s.writeNode f a i).rebuilding = (s.node i).rebuilding := by rw [writeNode_eq]

theorem writeNode_snaps (s : Sys) (f a : List Nat) (i : Nat) :
    (s.writeNode f a i).snaps = (s.node i).snaps := by rw [writeNode_eq]

theorem writeNode_att (s : Sys) (f a : List Nat) (i : Nat) :
    (s.writeNode f a i).att = if f.contains i then .none else (s.node i).att := by rw [writeNode_eq]

theorem writeNode_log (s : Sys) (f a : List Nat) (i : Nat) :
    (s.writeNode f a i).log =
      if (s.node i).att = .rw ∧ (!f.contains i || a.contains i) then (s.node i).log ++ [s.next] else (s.node i).log := by
  rw [writeNode_eq]

theorem writeNode_rev (s : Sys) (f a : List Nat) (i : Nat) :
    (s.writeNode f a i).rev =
      if (s.node i).att = .rw ∧ (!f.contains i || a.contains i) then (s.node i).rev + 1 else (s.node i).rev := by
  rw [writeNode_eq]

theorem writeNode_rw (s : Sys) (f a : List Nat) (i : Nat) (h : (s.writeNode f a i).att = .rw) :
    (s.node i).att = .rw ∧ (s.writeNode f a i).log = (s.node i).log ++ [s.next] ∧
      (s.writeNode f a i).rev = (s.node i).rev + 1 := by
  rw [writeNode_att] at h
  split at h
  · cases h
  · rename_i hf
    have hc : (s.node i).att = .rw ∧ (!f.contains i || a.contains i) = true := ⟨h, by rw [Bool.not_eq_true _ |>.mp hf]; rfl⟩
    rw [writeNode_log, writeNode_rev, if_pos hc, if_pos hc]
    exact ⟨h, rfl, rfl⟩

/-- for `acked` and `ackedEpoch`, which `stepWrite` extends when the write is acknowledged, within `stream`, which it
    extends in any case -/
theorem mem_append_of_mem_ite_append {ok : Bool} {l st : List Nat} {x w : Nat} (h : ∀ w ∈ l, w ∈ st)
    (hw : w ∈ if ok then l ++ [x] else l) : w ∈ st ++ [x] := by
  cases ok
  · exact List.mem_append_left _ (h w hw)
  · rcases List.mem_append.mp hw with h1 | h1
    · exact List.mem_append_left _ (h w h1)
    · exact List.mem_append_right _ h1

theorem stepReg_cases (s : Sys) (i e : Nat) :
    s.stepReg i e = (s, .refused) ∨ s.stepReg i e = (s, .envMismatch) ∨
    ∃ s1, s1 = s.setNode i { s.node i with registered := true } ∧ s.up = false ∧ i < s.n ∧
      ((s1.node i).rebuilding = true ∧ s.stepReg i e = (s1, .ok) ∨
       (s1.node i).rebuilding = false ∧ s1.legalLeader (s1.candidate i) e = true ∧
        (s.stepReg i e = ({ s1 with maxRev := some e }, .ok) ∨
         s1.quorum ≤ s1.regCount ∧ s.stepReg i e = (({ s1 with maxRev := some e } : Sys).start e, .leader e))) := by
  -- `by_cases` with `if_pos` / `if_neg`, level by level, on `s1` generalized: the body mentions the new record five
  -- times, and `split` simplifies every copy again at each level
  unfold stepReg
  by_cases hg : s.up ∨ i ≥ s.n ∨ (s.node i).registered
  · exact .inl (if_pos hg)
  · rw [if_neg hg]
    simp only [not_or, Bool.not_eq_true, Nat.not_le, ge_iff_le] at hg
    generalize s.setNode i { s.node i with registered := true } = s1
    refine .inr ?_
    dsimp only
    by_cases hr : (s1.node i).rebuilding = true
    · exact .inr ⟨s1, rfl, hg.1, hg.2.1, .inl ⟨hr, if_pos hr⟩⟩
    · rw [if_neg hr]
      by_cases hl : (!s1.legalLeader (s1.candidate i) e) = true
      · exact .inl (if_pos hl)
      · rw [if_neg hl]
        refine .inr ⟨s1, rfl, hg.1, hg.2.1, .inr ⟨by simpa using hr, by simpa using hl, ?_⟩⟩
        by_cases hm : s1.quorum ≤ s1.regCount
        · exact .inr ⟨hm, if_pos hm⟩
        · exact .inl (if_neg hm)

theorem stepReg_leader (s : Sys) (i e : Nat) (h : (s.stepReg i e).2 = .leader e) :
    ((s.stepReg i e).1.node e).att = .rw ∧ ((s.stepReg i e).1.node e).log = (s.node e).log ∧
      (s.stepReg i e).1.acked = s.acked := by
  rcases stepReg_cases s i e with e0 | e0 | ⟨s1, hs1, -, -, ⟨-, e0⟩ | ⟨-, -, e0 | ⟨-, e0⟩⟩⟩ <;> rw [e0] at h ⊢
  · cases h
  · cases h
  · cases h
  · cases h
  · have hlog : (s1.node e).log = (s.node e).log := by rw [hs1, node_setNode_proj Node.log]; rfl
    rw [node_start, if_pos rfl]
    exact ⟨rfl, hlog, hs1 ▸ rfl⟩

theorem candidate_not_rebuilding (s : Sys) (i : Nat) (hi : (s.node i).rebuilding = false) :
    (s.node (s.candidate i)).rebuilding = false := by
  unfold candidate
  split
  · split
    · exact hi
    · rename_i hm; simpa using hm
  · exact hi

theorem legalLeader_not_rebuilding (s : Sys) (i e : Nat) (hi : (s.node i).rebuilding = false)
    (hl : s.legalLeader (s.candidate i) e = true) : (s.node e).rebuilding = false := by
  unfold legalLeader at hl
  dsimp only at hl
  split at hl
  · rw [of_decide_eq_true hl]; exact candidate_not_rebuilding s i hi
  · simp only [Bool.and_eq_true, Bool.not_eq_true'] at hl
    exact hl.1.2

/-- Every way a request changes the state, one rule per operation with its guard as hypotheses; `same` is for a
    request that leaves the state alone (refused, not a legal election, `regq`).  The three conclusions of `reg` are
    the ways out of an accepted registration: the registrant is rebuilding; it votes; its vote completes the majority
    and the elected replica starts the volume.  In `write`, `ok` is whether the write is acknowledged (the rule does
    not say when). -/
theorem step_ind {P : Op → Sys × Out → Prop} (s : Sys) (op : Op) (same : ∀ op o, P op (s, o))
    (reg : ∀ i e, s.up = false → i < s.n →
      let s1 := s.setNode i { s.node i with registered := true }
      ((s1.node i).rebuilding = true → P (.reg i e) (s1, .ok)) ∧
      ((s1.node i).rebuilding = false → s1.legalLeader (s1.candidate i) e = true →
        P (.reg i e) ({ s1 with maxRev := some e }, .ok) ∧
        (s1.quorum ≤ s1.regCount → P (.reg i e) (({ s1 with maxRev := some e } : Sys).start e, .leader e))))
    (write : ∀ f a (ok : Bool), s.up = true → s.quorum ≤ s.rwCount →
      P (.write f a) ({ s with node := s.writeNode f a, next := s.next + 1, stream := s.stream ++ [s.next],
                               acked := if ok then s.acked ++ [s.next] else s.acked,
                               ackedEpoch := if ok then s.ackedEpoch ++ [s.next] else s.ackedEpoch },
                      if ok then .ok else .failed))
    (add : ∀ i, s.up = true → i < s.n → (s.node i).att = .none → s.hasWO = false → s.memberCount < s.rf →
      0 < s.rwCount → P (.add i) (s.setNode i { s.node i with att := .wo }, .ok))
    (setrb : ∀ i, s.up = true → i < s.n → (s.node i).att = .wo →
      P (.setrb i) (s.setNode i { s.node i with rebuilding := true, log := [], snaps := [] }, .ok))
    (promote : ∀ i src, s.up = true → i < s.n → src < s.n → (s.node i).att = .wo → (s.node src).att = .rw →
      P (.promote i src) (s.setNode i { s.node i with att := .rw, log := (s.node src).log, rev := (s.node src).rev,
                                                       snaps := (s.node src).snaps }, .ok))
    (rbdone : ∀ i, i < s.n → (s.node i).att = .rw → (s.node i).rebuilding = true →
      P (.rbdone i) (s.setNode i { s.node i with rebuilding := false }, .ok))
    (remove : ∀ i, s.up = true → i < s.n → (s.node i).att ≠ .none →
      P (.remove i) (s.setNode i { s.node i with att := .none }, .ok))
    (snap : s.up = true → s.rwCount = s.rf →
      P .snap ({ s with node := fun i => { s.node i with snaps := if (s.node i).att = .rw
                                 then (s.node i).snaps ++ [(s.nextSnap, (s.node i).log)] else (s.node i).snaps },
                        nextSnap := s.nextSnap + 1, taken := s.taken ++ [(s.nextSnap, s.stream)] }, .ok))
    (stop : P .stop ({ s with up := false, maxRev := none,
                              node := fun i => { s.node i with registered := false, att := .none } }, .ok)) :
    P op (s.step op) := by
  cases op <;> dsimp only [step]
  case reg i e =>
    rcases stepReg_cases s i e with e0 | e0 | ⟨s1, hs1, hd, hi, hc⟩
    · rw [e0]; exact same _ _
    · rw [e0]; exact same _ _
    · subst hs1
      have r := reg i e hd hi
      rcases hc with ⟨hreb, e1⟩ | ⟨hreb, hleg, e1 | ⟨hq, e1⟩⟩ <;> rw [e1]
      · exact r.1 hreb
      · exact (r.2 hreb hleg).1
      · exact (r.2 hreb hleg).2 hq
  case write f a =>
    unfold stepWrite
    refine iteInduction (fun _ => same _ _) fun hu => iteInduction (fun _ => same _ _) fun hq => ?_
    exact write f a _ (by simpa using hu) (Nat.le_of_not_lt hq)
  case add i =>
    unfold stepAdd
    refine iteInduction (fun _ => same _ _) fun hg => ?_
    simp only [not_or, Bool.not_eq_true', Bool.not_eq_true, Bool.not_eq_false, Decidable.not_not] at hg
    obtain ⟨hup, hi, hnone, hwo, hmem, hrw⟩ := hg
    exact add i hup (by omega) hnone hwo (by omega) (by omega)
  case setrb i =>
    unfold stepSetRb
    refine iteInduction (fun _ => same _ _) fun hg => ?_
    simp only [not_or, Bool.not_eq_true', Bool.not_eq_false, Decidable.not_not] at hg
    obtain ⟨hup, hi, hwo⟩ := hg
    exact setrb i hup (by omega) hwo
  case promote i src =>
    unfold stepPromote
    refine iteInduction (fun _ => same _ _) fun hg => ?_
    simp only [not_or, Bool.not_eq_true', Bool.not_eq_false, Decidable.not_not] at hg
    obtain ⟨hup, hi, hsrc, hwo, hrw⟩ := hg
    exact promote i src hup (by omega) (by omega) hwo hrw
  case rbdone i =>
    unfold stepRbDone
    refine iteInduction (fun _ => same _ _) fun hg => ?_
    simp only [not_or, Bool.not_eq_true', Bool.not_eq_false, Decidable.not_not] at hg
    obtain ⟨hi, hrw, hreb⟩ := hg
    exact rbdone i (by omega) hrw hreb
  case remove i =>
    unfold stepRemove
    refine iteInduction (fun _ => same _ _) fun hg => ?_
    simp only [not_or, Bool.not_eq_true', Bool.not_eq_false] at hg
    obtain ⟨hup, hi, hatt⟩ := hg
    exact remove i hup (by omega) hatt
  case snap =>
    unfold stepSnap
    refine iteInduction (fun _ => same _ _) fun hg => ?_
    simp only [not_or, Bool.not_eq_true', Bool.not_eq_false, Decidable.not_not] at hg
    -- the snapshot as a change of `snaps` alone: every other field of a replica then reads back unchanged by reduction
    have e : (fun i => if (s.node i).att = .rw then { s.node i with snaps := (s.node i).snaps ++ [(s.nextSnap, (s.node i).log)] }
        else s.node i) = fun i => { s.node i with snaps := if (s.node i).att = .rw
          then (s.node i).snaps ++ [(s.nextSnap, (s.node i).log)] else (s.node i).snaps } := by
      funext i; split <;> rfl
    rw [e]; exact snap hg.1 hg.2
  case regq => exact same _ _
  case stop => exact stop

/-- a write detaches the replicas that fail it and attaches nobody -/
theorem writeNode_att_cases (s : Sys) (f a : List Nat) (i : Nat) :
    (s.writeNode f a i).att = .none ∨ (s.writeNode f a i).att = (s.node i).att := by
  rw [writeNode_att]; split
  · exact .inl rfl
  · exact .inr rfl

theorem rw_of_setNode {s : Sys} {i k : Nat} {nd : Node} (h0 : (s.node i).att ≠ .rw)
    (h1 : ((s.setNode k nd).node i).att = .rw) : i = k ∧ nd.att = .rw := by
  rw [node_setNode] at h1; split at h1
  · exact ⟨‹i = k›, h1⟩
  · exact absurd h1 h0

theorem run_ind {P : Sys → Prop} (hstep : ∀ s, P s → ∀ op, P (s.step op).1) (ops : List Op) :
    ∀ s, P s → P (s.run ops) := by
  induction ops with
  | nil => exact fun _ h => h
  | cons op ops ih => exact fun s h => ih _ (hstep s h op)

theorem healthyRun_cons (s : Sys) (op : Op) (ops : List Op) :
    s.healthyRun (op :: ops) = true ↔ (op = .stop → s.healthy = true) ∧ (s.step op).1.healthyRun ops = true := by
  cases op <;> simp [healthyRun]

end Sys
end Jiva.Cluster
