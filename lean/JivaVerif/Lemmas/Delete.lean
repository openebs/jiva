import JivaVerif.Lemmas.Chain
/-! Snapshot deletion, first half: `coalesce`. -/
namespace Jiva
namespace DD
variable {β : Type}

theorem coalesce_alloc (d : DD β) (k j b : Nat) :
    ((d.coalesce k).files j).alloc b =
      if j = k - 1 then ((d.files k).alloc b || (d.files (k - 1)).alloc b) else (d.files j).alloc b := by
  unfold coalesce; by_cases e : j = k - 1 <;> simp [e]

theorem coalesce_holds (d : DD β) (k j b : Nat) : ((d.coalesce k).files j).alloc b = true ↔
    (d.files j).alloc b = true ∨ (j = k - 1 ∧ (d.files k).alloc b = true) := by
  rw [coalesce_alloc]
  by_cases e : j = k - 1 <;> simp [e, or_comm]

theorem wf_coalesce (d : DD β) (h : WF d) (k : Nat) (hk : 2 ≤ k) (hkt : k ≤ d.top) : WF (d.coalesce k) := by
  have mono : ∀ j b, (d.files j).alloc b = true → ((d.coalesce k).files j).alloc b = true :=
    fun j b hh => (coalesce_holds d k j b).mpr (Or.inl hh)
  have sink : ∀ j b, ((d.coalesce k).files j).alloc b = true → ∃ j', j ≤ j' ∧ (d.files j').alloc b = true :=
    fun j b a => ((coalesce_holds d k j b).mp a).elim (fun a => ⟨j, Nat.le_refl j, a⟩) fun ⟨e, a⟩ => ⟨k, by omega, a⟩
  have hloc : ∀ b, d.loc b ≠ 0 → LocOk (d.coalesce k) b (d.loc b) := fun b hb =>
    (h.locOk b hb).sink (Nat.le_refl _) (fun j => sink j b) (mono _ b)
  refine ⟨h.bs_pos, h.top_pos, fun b => ?_, fun j hj b => ?_, hloc, h.locOut, h.urLe, h.ucLt, h.markCover, h.marksAbove,
    fun p hp => (h.pendOk p hp).mono (hloc p.2) (Nat.le_refl _) (fun _ => Or.inl) fun j => mono j p.2⟩
  · rw [coalesce_alloc, if_neg (by omega)]; exact h.empty0 b
  · rw [coalesce_alloc, if_neg (by have : d.top < j := hj; omega)]; exact h.emptyAbove j hj b

theorem coalesced_coalesce (d : DD β) (k : Nat) (hk : 2 ≤ k) : Coalesced (d.coalesce k) k := by
  intro u ha
  rw [show (d.coalesce k).files k = d.files k from if_neg (by omega)] at ha ⊢
  rw [show (d.coalesce k).files (k - 1) = _ from if_pos rfl]
  exact ⟨Bool.or_eq_true_iff.mpr (Or.inl ha), if_pos ha⟩

variable [Inhabited β]

theorem view_coalesce_parent (d : DD β) (k u : Nat) (hk : 2 ≤ k) :
    (d.coalesce k).view (k - 1) u = d.view k u := by
  obtain ⟨m, rfl⟩ : ∃ m, k = m + 2 := ⟨k - 2, by omega⟩
  show viewUpTo (d.coalesce (m + 2)).files d.bs (m + 1) u = viewUpTo d.files d.bs (m + 2) u
  have below : viewUpTo (d.coalesce (m + 2)).files d.bs m u = viewUpTo d.files d.bs m u :=
    viewUpTo_congr_files _ _ _ _ _ fun j _ hj => if_neg (by omega)
  rw [viewUpTo_succ, viewUpTo_succ, viewUpTo_succ, below, show (d.coalesce (m + 2)).files (m + 1) = _ from if_pos rfl]
  by_cases a : (d.files (m + 2)).alloc (u / d.bs) = true <;> simp [a]

/-- **C11 core (coalesce).** Folding snapshot `k` into `k-1` changes no view except that of
    `k-1`, which becomes the old view of `k`. -/
theorem view_coalesce (d : DD β) (k i u : Nat) (hk : 2 ≤ k) (hi : i ≠ k - 1) :
    (d.coalesce k).view i u = d.view i u := by
  by_cases c : k ≤ i
  · -- the child is untouched and sits on a parent that shows what it showed; above `k` nothing changed
    refine viewUpTo_eq_above (d.coalesce k).files d.files d.bs k u ?_ (fun j hj => if_neg (by omega)) i c
    obtain ⟨m, rfl⟩ : ∃ m, k = m + 1 := ⟨k - 1, by omega⟩
    have parent : viewUpTo (d.coalesce (m + 1)).files d.bs m u = viewUpTo d.files d.bs (m + 1) u :=
      view_coalesce_parent d (m + 1) u hk
    rw [viewUpTo_succ, parent, viewUpTo_succ, show (d.coalesce (m + 1)).files (m + 1) = d.files (m + 1) from if_neg (by omega)]
    cases (d.files (m + 1)).alloc (u / d.bs) <;> rfl
  · exact viewUpTo_congr_files _ _ _ _ _ fun j _ hj => if_neg (by omega)

theorem live_coalesce (d : DD β) (k u : Nat) (hk : 2 ≤ k) (hkt : k < d.top) : (d.coalesce k).live u = d.live u :=
  view_coalesce d k d.top u hk (by omega)

end DD
end Jiva
