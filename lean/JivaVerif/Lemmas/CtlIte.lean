/-! The way through an `if` without `split`, which simplifies the whole remaining goal at every level (entering both
    branches under a new hypothesis, so nothing is cached): on the nested `if`s of the controller's requests its cost
    doubles with every level.  A predicate is taken through by core's `iteInduction` (the `then` case first; it finds
    its motive when the goal is a predicate applied to the conditional: a claim that mentions the value more than once is
    stated as `let P x := …; P value`), a projection by `apply_ite`; `ite_ind₂` takes a relation through two
    conditionals on the same test. -/
namespace Jiva

theorem ite_ind₂ {α β : Sort _} {R : α → β → Prop} {p : Prop} [Decidable p] {a b : α} {a' b' : β}
    (ha : p → R a a') (hb : ¬p → R b b') : R (if p then a else b) (if p then a' else b') := by
  by_cases h : p
  · rw [if_pos h, if_pos h]; exact ha h
  · rw [if_neg h, if_neg h]; exact hb h

end Jiva
