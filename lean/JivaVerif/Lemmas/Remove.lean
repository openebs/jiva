import JivaVerif.Lemmas.Delete
/-! Snapshot deletion, second half: `RemoveIndex k` with its metadata.  It renumbers: the member with new index `j`
had index `oldIdx k j`, the member with old index `i ≠ k` gets `newIdx k i`; a location entry `k` becomes
`newIdx k k = k - 1`, the parent. -/
namespace Jiva
namespace DD

def oldIdx (k j : Nat) : Nat := if j < k then j else j + 1
def newIdx (k i : Nat) : Nat := if k ≤ i then i - 1 else i

theorem oldIdx_spec (k j : Nat) : (j < k ∧ oldIdx k j = j) ∨ (k ≤ j ∧ oldIdx k j = j + 1) := by
  unfold oldIdx
  by_cases c : j < k
  · exact Or.inl ⟨c, if_pos c⟩
  · exact Or.inr ⟨Nat.le_of_not_lt c, if_neg c⟩

theorem newIdx_spec (k i : Nat) : (k ≤ i ∧ newIdx k i = i - 1) ∨ (i < k ∧ newIdx k i = i) := by
  unfold newIdx
  by_cases c : k ≤ i
  · exact Or.inl ⟨c, if_pos c⟩
  · exact Or.inr ⟨Nat.lt_of_not_le c, if_neg c⟩

theorem lt_oldIdx_of_newIdx_lt {k i j : Nat} (h : newIdx k i < j) : i < oldIdx k j := by
  have := oldIdx_spec k j
  have := newIdx_spec k i
  omega

theorem oldIdx_lt_of_lt_newIdx {k i j : Nat} (h : j < newIdx k i) : oldIdx k j < i := by
  have := oldIdx_spec k j
  have := newIdx_spec k i
  omega

theorem oldIdx_newIdx {k i : Nat} (hi : i ≠ k) : oldIdx k (newIdx k i) = i := by
  have := oldIdx_spec k (newIdx k i)
  have := newIdx_spec k i
  omega

theorem oldIdx_newIdx_self {k : Nat} (hk : 1 ≤ k) : oldIdx k (newIdx k k) = k - 1 := by
  unfold newIdx oldIdx
  rw [if_pos (Nat.le_refl k), if_pos (by omega)]

theorem oldIdx_bounds {k t i : Nat} (hk : 2 ≤ k) (hkt : k < t) : (1 ≤ oldIdx k i ∧ oldIdx k i < t) ↔ (1 ≤ i ∧ i < t - 1) := by
  have := oldIdx_spec k i
  omega

theorem oldIdx_succ {k i : Nat} (hi : oldIdx k i ≠ k - 1) (hk : 1 ≤ k) : oldIdx k (i + 1) = oldIdx k i + 1 := by
  have := oldIdx_spec k i
  have := oldIdx_spec k (i + 1)
  omega

theorem shift_lt (k : Nat) (f : Nat → α) (i : Nat) (h : i < k) : shift k f i = f i := if_pos h
theorem shift_ge (k : Nat) (f : Nat → α) (i : Nat) (h : k ≤ i) : shift k f i = f (i + 1) := if_neg (Nat.not_lt.mpr h)

theorem shift_eq (k : Nat) (f : Nat → α) (i : Nat) : shift k f i = f (oldIdx k i) := by
  unfold shift oldIdx; split <;> rfl

variable {β : Type}

theorem removeIdx_ur (d : DD β) (k i : Nat) : (d.removeIdx k).ur i = d.ur (oldIdx k i) := by
  show (shift k d.uc i && !shift k d.rm i) = _
  rw [shift_eq, shift_eq]; rfl

/-- **C11: the invariant survives a deletion** provided the deleted snapshot has been folded into
    its parent and the parent is not a retained user-created snapshot (the condition on the candidate's parent in the
    cleaner's filter `candidatesUpTo`). -/
theorem wf_removeIdx (d : DD β) (h : WF d) (k : Nat) (hk : 2 ≤ k) (hkt : k < d.top)
    (hc : Coalesced d k) (hu2 : d.ur (k - 1) = false) : WF (d.removeIdx k) := by
  have hfiles : ∀ j, (d.removeIdx k).files j = d.files (oldIdx k j) := fun j => shift_eq k d.files j
  have hmarks : ∀ j, (d.removeIdx k).marks j = d.marks (oldIdx k j) := fun j => shift_eq k d.marks j
  have hloc : ∀ b, (d.removeIdx k).loc b = newIdx k (d.loc b) := fun _ => rfl
  have hnew0 : newIdx k 0 = 0 := if_neg (by omega)
  have htop : ∀ j, d.top - 1 < j → d.top < oldIdx k j := fun j hj => by
    have := oldIdx_spec k j
    omega
  -- a retained user snapshot keeps a marker at or right above it: its old index is not `k - 1`
  have cover : ∀ i, (d.removeIdx k).ur i = true → (1 ≤ i ∧ i < d.top - 1) ∧
      ((d.removeIdx k).marks i = true ∨ (d.removeIdx k).marks (i + 1) = true) := by
    intro i hi
    have hi : d.ur (oldIdx k i) = true := removeIdx_ur d k i ▸ hi
    have hne : oldIdx k i ≠ k - 1 := fun e => by rw [e, hu2] at hi; cases hi
    rw [hmarks, hmarks, oldIdx_succ hne (by omega)]
    exact ⟨(oldIdx_bounds hk hkt).mp ⟨h.urPos _ hi, h.urLt _ hi⟩, h.markCover _ hi⟩
  exact
    { bs_pos := h.bs_pos
      top_pos := by show 1 ≤ d.top - 1; omega
      empty0 := fun b => by rw [hfiles, show oldIdx k 0 = 0 from if_pos (by omega)]; exact h.empty0 b
      emptyAbove := fun j hj b => by rw [hfiles]; exact h.emptyAbove _ (htop j hj) b
      locOk := fun b hb => by
        have ⟨l1, l2, l3⟩ := h.locOk b fun e => hb (by rw [hloc, e, hnew0])
        rw [hloc]
        have hle : newIdx k (d.loc b) ≤ d.top - 1 := by
          have := newIdx_spec k (d.loc b)
          omega
        refine ⟨hle, fun j hj => by rw [hfiles]; exact l2 _ (lt_oldIdx_of_newIdx_lt hj),
          l3.imp (fun l3 => ?_) fun l3 j hj => by rw [hfiles]; exact l3 _ (oldIdx_lt_of_lt_newIdx hj)⟩
        rw [hfiles]
        by_cases e : d.loc b = k
        · -- the entry pointed at the removed file: it now points at the parent, which holds what the child held
          rw [e] at l3 ⊢
          rw [oldIdx_newIdx_self (by omega)]
          have := hc (b * d.bs)
          rw [Nat.mul_div_cancel _ h.bs_pos] at this
          exact (this l3).1
        · rw [oldIdx_newIdx e]; exact l3
      locOut := fun b hb => by rw [hloc, h.locOut b hb, hnew0]
      urLe := fun i hi => by
        -- SnapIndx is recomputed as the topmost marker
        have ⟨⟨h1, h2⟩, hm⟩ := cover i hi
        have hge : i ≤ lastMark (shift k d.marks) (d.top - 1) := by
          rcases hm with m | m
          · exact lastMark_ge _ _ i h1 (by omega) m
          · exact Nat.le_of_succ_le (lastMark_ge _ _ (i + 1) (by omega) (by omega) m)
        show i ≤ (if lastMark (shift k d.marks) (d.top - 1) = 0 then _ else _)
        rw [if_neg (by omega)]
        exact hge
      ucLt := fun i hi => by
        have hi' : shift k d.uc i = true := hi
        rw [shift_eq] at hi'
        exact (oldIdx_bounds hk hkt).mp (h.ucLt _ hi')
      markCover := fun i hi => (cover i hi).2
      marksAbove := fun i hi => by rw [hmarks]; exact h.marksAbove _ (htop i hi)
      pendOk := fun p hp => by cases hp }

variable [Inhabited β]

theorem viewUpTo_coalesced (d : DD β) (k u : Nat) (hk : 2 ≤ k) (hc : Coalesced d k) :
    viewUpTo d.files d.bs k u = viewUpTo d.files d.bs (k - 1) u := by
  obtain ⟨m, rfl⟩ : ∃ m, k = m + 2 := ⟨k - 2, by omega⟩
  show viewUpTo d.files d.bs (m + 2) u = viewUpTo d.files d.bs (m + 1) u
  rw [viewUpTo_succ]
  by_cases a : (d.files (m + 2)).alloc (u / d.bs) = true
  · have c1 : (d.files (m + 1)).alloc (u / d.bs) = true := (hc u a).1
    have c2 : (d.files (m + 1)).data u = (d.files (m + 2)).data u := (hc u a).2
    rw [if_pos a, viewUpTo_succ, if_pos c1, c2]
  · rw [if_neg a]

/-- **C11: what a deletion shows.** Views below the deleted index are unchanged; the views of
    the members above it are unchanged too (they are renumbered). -/
theorem view_removeIdx (d : DD β) (k i u : Nat) (hk : 2 ≤ k) (hc : Coalesced d k) :
    (d.removeIdx k).view i u = if i < k then d.view i u else d.view (i + 1) u := by
  show viewUpTo (shift k d.files) d.bs i u = if i < k then viewUpTo d.files d.bs i u else viewUpTo d.files d.bs (i + 1) u
  have below : ∀ i, i < k → viewUpTo (shift k d.files) d.bs i u = viewUpTo d.files d.bs i u := fun i hi =>
    viewUpTo_congr_files _ _ _ _ _ fun j _ hj => shift_lt k _ j (by omega)
  have above : ∀ i, k - 1 ≤ i → viewUpTo (shift k d.files) d.bs i u = viewUpTo d.files d.bs (i + 1) u := by
    intro i hi
    induction hi with
    | refl => rw [below _ (by omega), show k - 1 + 1 = k by omega, viewUpTo_coalesced d k u hk hc]
    | @step i hi ih =>
      have hi : k - 1 ≤ i := hi
      rw [viewUpTo_succ, viewUpTo_succ (i := i + 1), shift_ge k _ _ (by omega), ih]
  by_cases c : i < k
  · rw [if_pos c, below i c]
  · rw [if_neg c, above i (by omega)]

theorem live_removeIdx (d : DD β) (h : WF d) (k u : Nat) (hk : 2 ≤ k) (hkt : k < d.top)
    (hc : Coalesced d k) : (d.removeIdx k).live u = d.live u := by
  show (d.removeIdx k).view (d.top - 1) u = d.view d.top u
  rw [view_removeIdx d k _ u hk hc, if_neg (by omega), Nat.sub_add_cancel h.top_pos]

end DD
end Jiva
