import JivaVerif.Lemmas.Remove
import JivaVerif.Lemmas.Reopen
import JivaVerif.Model.Ops
/-! The block engine refines the abstract volume + frozen snapshot images. -/
namespace Jiva
namespace DD
variable {β : Type} [Inhabited β]

theorem wf_step (d : DD β) (h : WF d) (op : Op β) (ha : Adm d op) : WF (d.step op) := by
  cases op with
  | write off len buf => exact (writeOk_write d h off len buf ha).wf
  | read off len => exact wf_memoRange d h _ _
  | snapshot user => exact wf_snapshot d h user
  | markRemoved k => exact wf_markRemoved d h k
  | coalesce k => exact wf_coalesce d h k ha.1 (Nat.le_of_lt ha.2.1)
  | removeIdx k => exact wf_removeIdx d h k ha.1 ha.2.1 ha.2.2.1 ha.2.2.2.1
  | applyHole i => exact wf_applyHole d h i
  | dropHoles => exact wf_dropHoles d h
  | reopen pre => exact wf_reopen d h.wfs pre
  | revert k => exact wf_revert d h.wfs k
  | resize nb => exact wf_resize d h nb ha
  | setPunch p => exact wf_setPunch d h p
  | lunmap => exact wf_lunmap d h

/-- The refinement relation: the model shows the specified volume, and every retained
    user-created snapshot shows its frozen image. -/
structure Refines (d : DD β) (s : Spec β) : Prop where
  wf   : WF d
  live : ∀ u, d.live u = s.vol u
  snap : ∀ i, d.ur i = true → ∀ u, d.view i u = s.img i u

theorem refines_init (bs nb : Nat) (h : 0 < bs) : Refines (DD.init bs nb : DD β) Spec.init := by
  refine ⟨wf_init bs nb h, ?_, ?_⟩
  · intro u; simp [live, view, init, viewUpTo, File.empty, Spec.init]
  · intro i hi; simp [init, ur] at hi

theorem Refines.keep {d d' : DD β} {s : Spec β} (r : Refines d s) (hw : WF d')
    (hl : ∀ u, d'.live u = d.live u)
    (hs : ∀ i, d'.ur i = true → d.ur i = true ∧ ∀ u, d'.view i u = d.view i u) : Refines d' s :=
  ⟨hw, fun u => (hl u).trans (r.live u), fun i hi u => ((hs i hi).2 u).trans (r.snap i (hs i hi).1 u)⟩

theorem refines_step (d : DD β) (s : Spec β) (r : Refines d s) (op : Op β) (ha : Adm d op) :
    Refines (d.step op) (s.step d.top op) := by
  have hw := wf_step d r.wf op ha
  cases op with
  | write off len buf =>
    have w := writeOk_write d r.wf off len buf ha
    refine ⟨hw, fun u => (w.live u).trans (by rw [r.live u]; rfl), fun i hi u => ?_⟩
    have hi' : d.ur i = true := ur_congr w.same.1 w.same.2.1 i ▸ hi
    exact (w.below i u (r.wf.urLt i hi')).trans (r.snap i hi' u)
  | read off len =>
    change WF (d.memoRange _ _) at hw; show Refines (d.memoRange _ _) s
    rw [memoRange_eq] at hw ⊢
    exact r.keep hw (fun _ => rfl) fun i hi => ⟨hi, fun _ => rfl⟩
  | snapshot user =>
    refine ⟨hw, fun u => (live_snapshot d r.wf user u).trans (r.live u), fun i hi u => ?_⟩
    have hi' : (d.snapshot user).ur i = true := hi
    rw [ur_snapshot] at hi'
    show d.view i u = (if i = d.top then s.vol else s.img i) u
    by_cases e : i = d.top
    · rw [if_pos e, e]; exact r.live u
    · rw [if_neg e] at hi' ⊢
      by_cases e' : i = d.top + 1
      · rw [if_pos e'] at hi'; cases hi'
      · rw [if_neg e'] at hi'; exact r.snap i hi' u
  | markRemoved k =>
    refine r.keep hw (fun _ => rfl) fun i hi => ⟨?_, fun _ => rfl⟩
    have hi' : (d.markRemoved k).ur i = true := hi
    rw [ur_markRemoved, Bool.and_eq_true] at hi'; exact hi'.1
  | coalesce k =>
    refine ⟨hw, fun u => (live_coalesce d k u ha.1 ha.2.1).trans (r.live u), fun i hi u => ?_⟩
    have hi' : d.ur i = true := hi
    have hne : i ≠ k - 1 := by intro e; rw [e, ha.2.2.1] at hi'; cases hi'
    show (d.coalesce k).view i u = (if i = k - 1 then s.img k else s.img i) u
    rw [view_coalesce d k i u ha.1 hne, if_neg hne]; exact r.snap i hi' u
  | removeIdx k =>
    refine ⟨hw, fun u => (live_removeIdx d r.wf k u ha.1 ha.2.1 ha.2.2.1).trans (r.live u), fun i hi u => ?_⟩
    have hi' : (d.removeIdx k).ur i = true := hi
    rw [removeIdx_ur, oldIdx] at hi'
    show (d.removeIdx k).view i u = (if i < k then s.img i else s.img (i + 1)) u
    rw [view_removeIdx d k i u ha.1 ha.2.2.1]
    by_cases c : i < k
    · simp only [if_pos c] at hi' ⊢; exact r.snap i hi' u
    · simp only [if_neg c] at hi' ⊢; exact r.snap (i + 1) hi' u
  | applyHole j =>
    refine r.keep hw (live_applyHole d r.wf j) fun i hi => ?_
    have hi' : (d.applyHole j).ur i = true := hi
    rw [applyHole_eq] at hi'
    exact ⟨hi', fun u => view_applyHole d r.wf j i u (Or.inl hi')⟩
  | reopen pre =>
    change WF (d.reopen pre) at hw; show Refines (d.reopen pre) s
    rw [reopen_eq] at hw ⊢
    exact r.keep hw (fun _ => rfl) fun i hi => ⟨hi, fun _ => rfl⟩
  | revert k =>
    refine ⟨hw, fun u => (live_revert d k u).trans (r.snap k ha.2.2 u), fun i hi u => ?_⟩
    have hi' : (d.revert k).ur i = true := hi
    rw [revert_eq, ur_reopen, ur_cut, Bool.and_eq_true, decide_eq_true_eq] at hi'
    exact (view_revert d k i u hi'.1).trans (r.snap i hi'.2 u)
  | dropHoles | resize nb | setPunch p | lunmap =>
    exact r.keep hw (fun _ => rfl) fun i hi => ⟨hi, fun _ => rfl⟩

def runWith (d : DD β) (s : Spec β) : List (Op β) → DD β × Spec β
  | []        => (d, s)
  | op :: ops => runWith (d.step op) (s.step d.top op) ops

def AdmAll (d : DD β) : List (Op β) → Prop
  | []        => True
  | op :: ops => Adm d op ∧ AdmAll (d.step op) ops

theorem refines_run (ops : List (Op β)) : ∀ (d : DD β) (s : Spec β), Refines d s → AdmAll d ops →
    Refines (runWith d s ops).1 (runWith d s ops).2 := by
  induction ops with
  | nil => intro d s r _; exact r
  | cons op ops ih =>
    intro d s r ha
    exact ih _ _ (refines_step d s r op ha.1) ha.2

end DD
end Jiva
