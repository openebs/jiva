import JivaVerif.Lemmas.CtlPrim
/-! Who is in service.  `Alive c i`: the backend with id `i` is attached and not marked failed — it is in the fan-out list
    (`CInv`: writers = the backends that are not ERR) and receives the next write.  `Keeps k c c'`: everybody in service
    in `c'` was in service in `c`, or was attached since (ids from `k` on): a backend marked ERR never comes back under
    its id, a replica that returns is attached under a fresh one.  `Pres c c'` is what the primitives do that neither
    attach a backend nor take an id. -/
namespace Jiva
namespace Ctl

def Alive (c : Ctl) (i : Nat) : Prop := ∃ b ∈ c.backends, b.id = i ∧ b.mode ≠ .err

def Keeps (k : Nat) (c c' : Ctl) : Prop := ∀ i, Alive c' i → k ≤ i ∨ Alive c i

theorem Keeps.refl (k : Nat) (c : Ctl) : Keeps k c c := fun _ h => Or.inr h

theorem Keeps.trans {k : Nat} {a b c : Ctl} (h1 : Keeps k a b) (h2 : Keeps k b c) : Keeps k a c := by
  intro i hi
  rcases h2 i hi with h | h
  · exact Or.inl h
  · exact h1 i h

structure Pres (c c' : Ctl) : Prop where
  backs : ∀ b ∈ c'.backends, ∃ b0 ∈ c.backends, b0.id = b.id ∧ b0.addr = b.addr ∧ (b.mode ≠ .err → b0.mode ≠ .err)
  next  : c'.nextId = c.nextId
  calls : ∀ x ∈ c.calls, x ∈ c'.calls

theorem Pres.of_sub {c c' : Ctl} (hb : ∀ b ∈ c'.backends, b ∈ c.backends) (hn : c'.nextId = c.nextId)
    (hc : ∀ x ∈ c.calls, x ∈ c'.calls) : Pres c c' :=
  ⟨fun b h => ⟨b, hb b h, rfl, rfl, id⟩, hn, hc⟩

theorem Pres.refl (c : Ctl) : Pres c c := .of_sub (fun _ h => h) rfl fun _ h => h

theorem Pres.trans {a b c : Ctl} (h1 : Pres a b) (h2 : Pres b c) : Pres a c := by
  refine ⟨fun x hx => ?_, h2.next.trans h1.next, fun x hx => h2.calls x (h1.calls x hx)⟩
  obtain ⟨y, hy, e1, e2, e3⟩ := h2.backs x hx
  obtain ⟨z, hz, f1, f2, f3⟩ := h1.backs y hy
  exact ⟨z, hz, f1.trans e1, f2.trans e2, fun h => f3 (e3 h)⟩

theorem Pres.keeps {c c' : Ctl} (p : Pres c c') (k : Nat) : Keeps k c c' := by
  intro i ⟨b, hb, h1, h2⟩
  obtain ⟨b0, hb0, e1, _, e3⟩ := p.backs b hb
  exact Or.inr ⟨b0, hb0, e1.trans h1, e3 h2⟩

theorem keeps_of_backends (k : Nat) (c c' : Ctl) (e : c'.backends = c.backends) : Keeps k c c' := by
  intro i ⟨b, hb, h1, h2⟩
  exact Or.inr ⟨b, e ▸ hb, h1, h2⟩

theorem pres_closeNew (c : Ctl) (id : Nat) : Pres c (c.closeNew id) :=
  .of_sub (fun _ h => h) rfl fun _ h => List.mem_append_left _ h

theorem pres_startReset (c : Ctl) : Pres c c.startReset := .of_sub (fun _ h => nomatch h) rfl fun _ h => h

theorem pres_updateVolStatus (c : Ctl) : Pres c c.updateVolStatus := .of_sub (fun _ h => h) rfl fun _ h => h

theorem pres_updateCheckpoint (c : Ctl) (e : CkEnv) : Pres c (c.updateCheckpoint e) := by
  obtain ⟨s, l, h⟩ := updateCheckpoint_shape c e
  rw [h]; exact .of_sub (fun _ h => h) rfl fun _ h => List.mem_append_left _ h

theorem pres_removeBackend (c : Ctl) (a : String) : Pres c (c.removeBackend a) := by
  unfold removeBackend
  split
  · exact .refl c
  · exact .of_sub (fun _ h => (List.mem_filter.mp h).1) rfl fun _ h => List.mem_append_left _ h

theorem keeps_removeBackend (k : Nat) (c : Ctl) (a : String) : Keeps k c (c.removeBackend a) :=
  (pres_removeBackend c a).keeps k

theorem pres_removeReplica (c : Ctl) (a : String) (e : CkEnv) : Pres c (c.removeReplica a e) := by
  rcases removeReplica_cases c a e with ⟨_, e1⟩ | ⟨d, f, hc, e1⟩ <;> rw [e1]
  · exact .refl c
  · refine ((Pres.trans ?_ (pres_removeBackend _ a)).trans (pres_updateVolStatus _)).trans (pres_updateCheckpoint _ e)
    exact .of_sub (fun _ h => f.backends ▸ h) f.nextId fun _ h => hc ▸ h

theorem pres_remode (c : Ctl) (rs : List (String × CMode)) (m : CMode) (p : Backend → Prop) [DecidablePred p]
    (hp : ∀ b, p b → m = .err ∨ b.mode ≠ .err) :
    Pres c (rebuild { c with replicas := rs,
                             backends := c.backends.map fun b => if p b then { b with mode := m } else b }) := by
  refine ⟨fun b hb => ?_, rfl, fun _ hx => hx⟩
  obtain ⟨b0, hb0, rfl⟩ := List.mem_map.mp hb
  refine ⟨b0, hb0, ?_⟩
  by_cases q : p b0
  · rw [if_pos q]
    exact ⟨rfl, rfl, fun hal => (hp b0 q).resolve_left hal⟩
  · rw [if_neg q]
    exact ⟨rfl, rfl, id⟩

theorem pres_setMode_err (c : Ctl) (a : String) : Pres c (c.setMode a .err) := by
  unfold setMode
  refine iteInduction (fun _ => .refl c) fun _ => Pres.trans ?_ (pres_updateVolStatus _)
  unfold setModeCore
  refine iteInduction (fun _ => ?_) fun _ => .of_sub (fun _ h => h) rfl fun _ h => h
  cases c.backendOf a with
  | none => exact .of_sub (fun _ h => h) rfl fun _ h => h
  | some _ => exact pres_remode c _ .err (fun b => b.addr = a) fun _ _ => .inl rfl

/-- under the invariant a mode change touches only an entry that is not ERR -/
theorem pres_setMode {c : Ctl} (h : CCore c) (a : String) (m : CMode) : Pres c (c.setMode a m) := by
  unfold setMode
  refine iteInduction (fun _ => .refl c) fun _ => Pres.trans ?_ (pres_updateVolStatus _)
  rw [setModeCore_eq h]
  exact pres_remode c _ m (fun b => b.addr = a ∧ b.mode ≠ .err) fun _ q => .inr q.2

theorem pres_handleError (c : Ctl) (errs : List String) : Pres c (c.handleError errs).1 := by
  unfold handleError
  split
  · exact .refl c
  · exact List.foldlRecOn errs _ (.refl c) fun d hd a _ => hd.trans (pres_setMode_err d a)

theorem pres_removeAll (c : Ctl) (errs : List String) : Pres c (c.removeAll errs) :=
  List.foldlRecOn errs _ (.refl c) fun d hd a _ => hd.trans (pres_removeReplica d a _)

theorem pres_ioFail (c : Ctl) (errs : List String) : Pres c (c.ioFail errs).1 :=
  (pres_handleError c errs).trans (pres_removeAll _ errs)

theorem keeps_attach (k : Nat) (c : Ctl) (addr : String) (id : Nat) (hk : k ≤ id) : Keeps k c (c.attach addr id) := by
  intro i ⟨b, hb, h1, h2⟩
  rcases List.mem_append.mp (hb : b ∈ c.backends ++ [⟨addr, .wo, id⟩]) with hb | hb
  · exact Or.inr ⟨b, hb, h1, h2⟩
  · rw [List.mem_singleton.mp hb] at h1
    exact Or.inl (h1 ▸ hk)

end Ctl
end Jiva
