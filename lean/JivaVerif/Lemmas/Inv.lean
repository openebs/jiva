import JivaVerif.Lemmas.View
/-! The invariant `WF` of the differencing disk, and what lets the proof for an operation speak only of what the
operation changes (`LocOk.sink`, `Shadowed.mono`, `WF.relocate`). -/
namespace Jiva
namespace DD
variable {β : Type}

/-- `location[b] = i` is sound: nothing above `i` holds `b`, and reading `b` from file `i`
    gives what the chain shows (either `i` holds it or nothing below does). -/
def LocOk (d : DD β) (b i : Nat) : Prop :=
  i ≤ d.top ∧ (∀ j, i < j → (d.files j).alloc b = false) ∧
  ((d.files i).alloc b = true ∨ ∀ j, j < i → (d.files j).alloc b = false)

theorem LocOk.le_of_alloc {d : DD β} {b i hh : Nat} (hl : LocOk d b i) (ha : (d.files hh).alloc b = true) :
    hh ≤ i :=
  Nat.le_of_not_lt fun hc => by rw [hl.2.1 hh hc] at ha; cases ha

/-- A queued punch of block `b` in file `f` is harmless whenever it is applied: every view
    that must be preserved (retained user snapshots and the live volume) that could see `f`
    has a holder of `b` above `f`; the location map does not point at `f`. -/
def HoleOk (d : DD β) (f b : Nat) : Prop :=
  f < d.top ∧ (d.loc b = 0 ∨ f < d.loc b) ∧
  ∀ u, (d.ur u = true ∨ u = d.top) → f ≤ u → ∃ h, f < h ∧ h ≤ u ∧ (d.files h).alloc b = true

/-- `HoleOk` without its clause on the location map. -/
def Shadowed (d : DD β) (f b : Nat) : Prop :=
  f < d.top ∧ ∀ u, (d.ur u = true ∨ u = d.top) → f ≤ u → ∃ h, f < h ∧ h ≤ u ∧ (d.files h).alloc b = true

theorem HoleOk.shadowed {d : DD β} {f b : Nat} (q : HoleOk d f b) : Shadowed d f b := ⟨q.1, q.2.2⟩

theorem HoleOk.of_shadowed {d : DD β} {f b : Nat} (hl : d.loc b ≠ 0 → LocOk d b (d.loc b)) (s : Shadowed d f b) :
    HoleOk d f b := by
  refine ⟨s.1, ?_, s.2⟩
  by_cases c : d.loc b = 0
  · exact Or.inl c
  · have ⟨hh, a1, _, a3⟩ := s.2 d.top (Or.inr rfl) (Nat.le_of_lt s.1)
    exact Or.inr (Nat.lt_of_lt_of_le a1 ((hl c).le_of_alloc a3))

structure WF (d : DD β) : Prop where
  bs_pos     : 0 < d.bs
  top_pos    : 1 ≤ d.top
  empty0     : ∀ b, (d.files 0).alloc b = false
  emptyAbove : ∀ i, d.top < i → ∀ b, (d.files i).alloc b = false
  locOk      : ∀ b, d.loc b ≠ 0 → LocOk d b (d.loc b)
  locOut     : ∀ b, d.nb ≤ b → d.loc b = 0  -- `location` has `nb` entries; the model's total map is 0 beyond them
  urLe       : ∀ i, d.ur i = true → i ≤ d.snapIdx  -- why `fullWriteAt` may punch any copy above `SnapIndx`
  ucLt       : ∀ i, d.uc i = true → 1 ≤ i ∧ i < d.top  -- neither the nil slot nor the head is user-created
  -- A retained user snapshot has its `UserCreatedSnap` marker at its own index or one above: `snapshot` appends the
  -- marker of the file that becomes a snapshot together with the new head, at `top + 1`, while `construct` recomputes
  -- `marks := uc`.  Either way a stretch `[f, hh)` without a marker from `f` to `hh` holds no retained user
  -- snapshot (`ur_above_holder`), which is what the guards of `preload` and of the merge in `UpdateLUNMap` test.
  markCover  : ∀ i, d.ur i = true → d.marks i = true ∨ d.marks (i + 1) = true
  marksAbove : ∀ i, d.top < i → d.marks i = false
  pendOk     : ∀ p, p ∈ d.pend → HoleOk d p.1 p.2

theorem ur_uc (d : DD β) (i : Nat) (h : d.ur i = true) : d.uc i = true :=
  (Bool.and_eq_true_iff.mp h).1

theorem ur_congr {d d' : DD β} (h1 : d'.uc = d.uc) (h2 : d'.rm = d.rm) (i : Nat) : d'.ur i = d.ur i := by
  unfold ur; rw [h1, h2]

theorem WF.urLt {d : DD β} (h : WF d) (i : Nat) (hu : d.ur i = true) : i < d.top :=
  (h.ucLt i (ur_uc d i hu)).2

theorem WF.urPos {d : DD β} (h : WF d) (i : Nat) (hu : d.ur i = true) : 1 ≤ i :=
  (h.ucLt i (ur_uc d i hu)).1

/-- Holders of `b` may sink or vanish: the entry stays sound while the file it points at keeps the block. -/
theorem LocOk.sink {d d' : DD β} {b i : Nat} (hl : LocOk d b i) (htop : d.top ≤ d'.top)
    (hsink : ∀ j, (d'.files j).alloc b = true → ∃ j', j ≤ j' ∧ (d.files j').alloc b = true)
    (hkeep : (d.files i).alloc b = true → (d'.files i).alloc b = true) : LocOk d' b i := by
  refine ⟨Nat.le_trans hl.1 htop, fun j hj => Bool.eq_false_iff.mpr fun a => ?_, ?_⟩
  · have ⟨j', hj', a'⟩ := hsink j a
    exact Nat.not_le_of_lt hj (Nat.le_trans hj' (hl.le_of_alloc a'))
  · by_cases c : (d.files i).alloc b = true
    · exact Or.inl (hkeep c)
    · -- no file held the block, so none does
      refine Or.inr fun j _ => Bool.eq_false_iff.mpr fun a => ?_
      have ⟨j', _, a'⟩ := hsink j a
      rcases Nat.lt_or_eq_of_le (hl.le_of_alloc a') with lt | e
      · rw [hl.2.2.resolve_left c j' lt] at a'; cases a'
      · exact c (e ▸ a')

theorem Shadowed.mono {d d' : DD β} {f b : Nat} (s : Shadowed d f b) (htop : d.top ≤ d'.top)
    (hur : ∀ u, d'.ur u = true → d.ur u = true ∨ d.top ≤ u)
    (hfiles : ∀ j, (d.files j).alloc b = true → (d'.files j).alloc b = true) : Shadowed d' f b := by
  refine ⟨Nat.lt_of_lt_of_le s.1 htop, fun u hu hfu => ?_⟩
  rcases hu.elim (hur u) (fun e => Or.inr (e ▸ htop)) with hu | hu
  · have ⟨hh, a1, a2, a3⟩ := s.2 u (Or.inl hu) hfu
    exact ⟨hh, a1, a2, hfiles hh a3⟩
  · -- what shadows the block for the old head shadows it for every view above
    have ⟨hh, a1, a2, a3⟩ := s.2 d.top (Or.inr rfl) (Nat.le_of_lt s.1)
    exact ⟨hh, a1, Nat.le_trans a2 hu, hfiles hh a3⟩

theorem HoleOk.mono {d d' : DD β} {f b : Nat} (q : HoleOk d f b) (hl : d'.loc b ≠ 0 → LocOk d' b (d'.loc b))
    (htop : d.top ≤ d'.top) (hur : ∀ u, d'.ur u = true → d.ur u = true ∨ d.top ≤ u)
    (hfiles : ∀ j, (d.files j).alloc b = true → (d'.files j).alloc b = true) : HoleOk d' f b :=
  HoleOk.of_shadowed hl (q.shadowed.mono htop hur hfiles)

/-- The location map is a cache: any map whose known entries are sound keeps the invariant, with any queue whose
    new requests are shadowed. -/
theorem WF.relocate {d : DD β} (h : WF d) (L : Nat → Nat) (pend : List (Nat × Nat))
    (hok : ∀ b, L b ≠ 0 → LocOk d b (L b)) (hout : ∀ b, d.nb ≤ b → L b = 0)
    (hp : ∀ p ∈ pend, p ∈ d.pend ∨ Shadowed d p.1 p.2) :
    WF { d with loc := L, pend := pend } :=
  ⟨h.bs_pos, h.top_pos, h.empty0, h.emptyAbove, hok, hout, h.urLe, h.ucLt, h.markCover, h.marksAbove,
    fun p hm => HoleOk.of_shadowed (hok p.2) ((hp p hm).elim (fun hm => (h.pendOk p hm).shadowed) id)⟩

theorem scan_locOk (d : DD β) (h : WF d) (b : Nat) : LocOk d b (scan d.files b d.top) := by
  have ⟨s1, s2, s3, s4⟩ := scan_spec d.files b d.top h.top_pos
  refine ⟨s2, ?_, ?_⟩
  · intro j hj
    by_cases hjt : j ≤ d.top
    · exact s3 j hj hjt
    · exact h.emptyAbove j (by omega) b
  · by_cases hs : 1 < scan d.files b d.top
    · left; exact s4 hs
    · right; intro j hj; have : j = 0 := by omega
      subst this; exact h.empty0 b

theorem idx_locOk (d : DD β) (h : WF d) (b : Nat) (hb : b < d.nb) : LocOk d b (d.idx b) := by
  unfold idx
  rw [if_neg (Nat.not_le_of_lt hb)]
  by_cases h1 : d.top = 1
  · -- over a single file `scan` returns 1 as well
    have := scan_locOk d h b
    rw [h1] at this
    rw [if_pos h1]; exact this
  · rw [if_neg h1]
    by_cases h2 : d.loc b ≠ 0
    · rw [if_pos h2]; exact h.locOk b h2
    · rw [if_neg h2]; exact scan_locOk d h b

theorem memo_cases (d : DD β) (b : Nat) : d.memo b = d ∨ (b < d.nb ∧
    d.memo b = { d with loc := fun b' => if b' = b then scan d.files b d.top else d.loc b' }) := by
  unfold memo
  by_cases h1 : d.nb ≤ b
  · exact Or.inl (if_pos h1)
  by_cases h2 : d.top = 1
  · exact Or.inl (by rw [if_neg h1, if_pos h2])
  by_cases h3 : d.loc b ≠ 0
  · exact Or.inl (by rw [if_neg h1, if_neg h2, if_pos h3])
  · exact Or.inr ⟨Nat.lt_of_not_le h1, by rw [if_neg h1, if_neg h2, if_neg h3]⟩

theorem memo_eq (d : DD β) (b : Nat) : d.memo b = { d with loc := (d.memo b).loc } := by
  rcases memo_cases d b with e | ⟨_, e⟩ <;> rw [e]

theorem wf_memo (d : DD β) (h : WF d) (b : Nat) : WF (d.memo b) := by
  rcases memo_cases d b with e | ⟨hb, e⟩
  · rw [e]; exact h
  · rw [e]
    refine h.relocate _ d.pend (fun b' hb' => ?_) (fun b' hb' => ?_) fun _ hp => Or.inl hp
    · by_cases c : b' = b
      · rw [if_pos c, c]; exact scan_locOk d h b
      · rw [if_neg c] at hb' ⊢; exact h.locOk b' hb'
    · rw [if_neg (by omega)]; exact h.locOut b' hb'

theorem wf_dropHoles (d : DD β) (h : WF d) : WF d.dropHoles :=
  h.relocate d.loc [] h.locOk h.locOut fun _ hp => nomatch hp

theorem wf_setPunch (d : DD β) (h : WF d) (p : Bool) : WF (d.setPunch p) :=
  ⟨h.bs_pos, h.top_pos, h.empty0, h.emptyAbove, h.locOk, h.locOut, h.urLe, h.ucLt, h.markCover,
   h.marksAbove, h.pendOk⟩

theorem wf_resize (d : DD β) (h : WF d) (nb' : Nat) (hn : d.nb ≤ nb') : WF (d.resize nb') :=
  ⟨h.bs_pos, h.top_pos, h.empty0, h.emptyAbove, h.locOk,
   fun b hb => h.locOut b (Nat.le_trans hn hb), h.urLe, h.ucLt, h.markCover,
   h.marksAbove, h.pendOk⟩

variable [Inhabited β]

theorem wf_init (bs nb : Nat) (h : 0 < bs) : WF (init bs nb : DD β) := by
  refine ⟨h, by simp [init], ?_, ?_, ?_, ?_, ?_, ?_, ?_, ?_, ?_⟩ <;> simp [init, File.empty, ur]

theorem get_eq_live_of_locOk (d : DD β) (h : WF d) (u i : Nat) (hl : LocOk d (u / d.bs) i) :
    (d.files i).get d.bs u = d.live u := by
  obtain ⟨h1, h2, h3⟩ := hl
  unfold live view
  rw [viewUpTo_of_none_above d.files d.bs u i d.top h1 (fun j hj _ => h2 j hj)]
  unfold File.get
  cases i with
  | zero => rw [h.empty0]; rfl
  | succ i =>
    rw [viewUpTo_succ]
    by_cases ha : (d.files (i + 1)).alloc (u / d.bs) = true
    · rw [if_pos ha, if_pos ha]
    · rw [if_neg ha, if_neg ha]
      exact (viewUpTo_of_none d.files d.bs u i fun j hj => h3.resolve_left ha j (Nat.lt_succ_of_le hj)).symm

/-- C01 core: a read returns the live view. -/
theorem readUnit_eq_live (d : DD β) (h : WF d) (u : Nat) (hu : u / d.bs < d.nb) :
    d.readUnit u = d.live u :=
  get_eq_live_of_locOk d h u _ (idx_locOk d h (u / d.bs) hu)

end DD
end Jiva
