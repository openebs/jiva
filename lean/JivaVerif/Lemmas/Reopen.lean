import JivaVerif.Lemmas.Window
/-! `construct` on an existing directory, and revert and clone, which end in it.  The location map, the markers and the
    queue are made anew, so the invariant afterwards needs only the files and the disk metadata to be in order (`WFS`);
    no view changes.  A clone of snapshot `k` is the state a revert to `k` leaves. -/
namespace Jiva
namespace DD
variable {β : Type}

structure WFS (d : DD β) : Prop where
  bs_pos     : 0 < d.bs
  top_pos    : 1 ≤ d.top
  empty0     : ∀ b, (d.files 0).alloc b = false
  emptyAbove : ∀ i, d.top < i → ∀ b, (d.files i).alloc b = false
  ucLt       : ∀ i, d.uc i = true → 1 ≤ i ∧ i < d.top

theorem WF.wfs {d : DD β} (h : WF d) : WFS d := ⟨h.bs_pos, h.top_pos, h.empty0, h.emptyAbove, h.ucLt⟩

/-- state right after `construct` read the chain, before any preload -/
def fresh (d : DD β) : DD β :=
  { d with loc := fun _ => 0, marks := d.uc, snapIdx := lastMark d.uc d.top, pend := [] }

theorem reopen_false (d : DD β) : d.reopen false = fresh d := rfl

theorem reopen_true (d : DD β) : d.reopen true = (fresh d).preload := rfl

theorem wf_fresh (d : DD β) (h : WFS d) : WF (fresh d) :=
  { bs_pos := h.bs_pos, top_pos := h.top_pos, empty0 := h.empty0, emptyAbove := h.emptyAbove
    locOk := fun _ hb => absurd rfl hb
    locOut := fun _ _ => rfl
    urLe := fun i hi =>
      have hu : d.uc i = true := ur_uc (fresh d) i hi
      lastMark_ge d.uc d.top i (h.ucLt i hu).1 (Nat.le_of_lt (h.ucLt i hu).2) hu
    ucLt := h.ucLt
    markCover := fun i hi => Or.inl (ur_uc _ i hi)
    marksAbove := fun i hi => Bool.eq_false_iff.mpr fun hu => Nat.lt_irrefl _ (Nat.lt_trans hi (h.ucLt i hu).2)
    pendOk := fun _ hp => nomatch hp }

theorem wf_reopen (d : DD β) (h : WFS d) (pre : Bool) : WF (d.reopen pre) := by
  cases pre
  · rw [reopen_false]
    exact wf_fresh d h
  · rw [reopen_true]
    exact wf_preload (fresh d) (wf_fresh d h) fun _ => rfl

theorem reopen_eq (d : DD β) (pre : Bool) : d.reopen pre =
    { d with loc := (d.reopen pre).loc, marks := d.uc, snapIdx := lastMark d.uc d.top,
             pend := (d.reopen pre).pend } := by
  cases pre <;> rfl

theorem reopen_top (d : DD β) (pre : Bool) : (d.reopen pre).top = d.top := by rw [reopen_eq]

theorem ur_reopen (d : DD β) (pre : Bool) (i : Nat) : (d.reopen pre).ur i = d.ur i := by rw [reopen_eq]; rfl

variable [Inhabited β]

/-- **C01/C06: reopening (with or without preload) changes no view.** -/
theorem view_reopen (d : DD β) (pre : Bool) (i u : Nat) : (d.reopen pre).view i u = d.view i u := by
  rw [reopen_eq]; rfl

/-- the chain cut at `k` with a new empty head -/
def cut (d : DD β) (k : Nat) : DD β :=
  { d with
    top   := k + 1
    files := fun i => if i ≤ k then d.files i else File.empty
    uc    := fun i => if i ≤ k then d.uc i else false
    rm    := fun i => if i ≤ k then d.rm i else false }

theorem revert_eq (d : DD β) (k : Nat) : d.revert k = (cut d k).reopen true := rfl

theorem cloneOf_eq (d : DD β) (k : Nat) : d.cloneOf k = ((cut d k).reopen false).lunmap := rfl

theorem ur_cut (d : DD β) (k i : Nat) : (cut d k).ur i = (decide (i ≤ k) && d.ur i) := by
  unfold ur cut
  by_cases e : i ≤ k <;> simp [e]

theorem wfs_cut (d : DD β) (h : WFS d) (k : Nat) : WFS (cut d k) := by
  refine ⟨h.bs_pos, Nat.le_add_left 1 k, h.empty0, fun i hi b => ?_, fun i hi => ?_⟩
  · exact congrArg (fun f : File β => f.alloc b) (if_neg (by have : k + 1 < i := hi; omega))
  · have hi' : (if i ≤ k then d.uc i else false) = true := hi
    by_cases c : i ≤ k
    · rw [if_pos c] at hi'
      exact ⟨(h.ucLt i hi').1, Nat.lt_succ_of_le c⟩
    · rw [if_neg c] at hi'
      cases hi'

theorem view_cut (d : DD β) (k i u : Nat) (hi : i ≤ k) : (cut d k).view i u = d.view i u :=
  viewUpTo_congr_files _ _ _ _ _ fun j _ hj => if_pos (by omega)

theorem wf_revert (d : DD β) (h : WFS d) (k : Nat) : WF (d.revert k) := by
  rw [revert_eq]
  exact wf_reopen (cut d k) (wfs_cut d h k) true

/-- **C06: revert.** After `revert k` the live volume is exactly the image of snapshot `k`. -/
theorem live_revert (d : DD β) (k u : Nat) : (d.revert k).live u = d.view k u := by
  rw [revert_eq, live, reopen_top, view_reopen]
  show viewUpTo (cut d k).files d.bs (k + 1) u = d.view k u
  rw [viewUpTo_succ, show (cut d k).files (k + 1) = File.empty from if_neg (by omega)]
  exact view_cut d k k u (Nat.le_refl _)

theorem view_revert (d : DD β) (k i u : Nat) (hi : i ≤ k) : (d.revert k).view i u = d.view i u := by
  rw [revert_eq, view_reopen]
  exact view_cut d k i u hi

theorem cloneOf_eq_revert (d : DD β) (k : Nat) : d.cloneOf k = d.revert k := by
  rw [cloneOf_eq, revert_eq, reopen_false, reopen_true]
  exact lunmap_of_loc_zero _ fun _ => rfl

end DD
end Jiva
