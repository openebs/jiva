import JivaVerif.Lemmas.CtlKeep
/-! `AddReplica`, `Start`, `VerifyRebuildReplica`: their primitives (taking an id, `canAdd`, closing or attaching
    the new backend, `reset()`) and the ways out of `Start` for one address, of `Start` itself and of
    `VerifyRebuildReplica` (`startOne_cases`, `stepStart_ok`, `stepVerify_cases`). -/
namespace Jiva
namespace Ctl

def Fresh (c : Ctl) (id : Nat) : Prop :=
  c.nextId = id + 1 ∧ (∀ b ∈ c.backends, b.id < id) ∧ ∀ i ∈ c.closed, i < id

theorem fresh_reserveId {c : Ctl} (h : CInv c) : Fresh c.reserveId c.nextId := ⟨rfl, h.core.idsLt⟩

theorem Fresh.frame {c c' : Ctl} {id : Nat} (h : Fresh c id) (f : Frame c c') : Fresh c' id := by
  unfold Fresh; rw [f.backends, f.nextId, f.closed]; exact h

theorem cinv_reserveId (c : Ctl) (h : CInv c) : CInv c.reserveId :=
  ⟨{ h.core with idsLt := ⟨fun b hb => Nat.lt_succ_of_lt (h.core.idsLt.1 b hb),
                            fun i hi => Nat.lt_succ_of_lt (h.core.idsLt.2 i hi)⟩ }, h.status, h.ckpt⟩

theorem cinv_reserve (c : Ctl) (h : CInv c) (sz : Nat) : CInv (c.reserve sz) :=
  (cinv_reserveId c h).frame (.set ..)

theorem cinv_closeNew (c : Ctl) (h : CInv c) (id : Nat) (hf : Fresh c id) : CInv (c.closeNew id) := by
  obtain ⟨hid, hlt, _⟩ := hf
  unfold closeNew
  refine ⟨{ h.core with idsLt := ⟨h.core.idsLt.1, ?_⟩, idsLive := fun b hb hi => ?_ }, h.status, h.ckpt⟩
  · show ∀ i ∈ c.closed ++ [id], i < c.nextId
    rw [List.forall_mem_append, List.forall_mem_singleton]
    exact ⟨h.core.idsLt.2, hid ▸ Nat.lt_succ_self id⟩
  · rcases List.mem_append.mp hi with hi | hi
    · exact h.core.idsLive b hb hi
    · exact Nat.ne_of_lt (hlt b hb) (List.mem_singleton.mp hi)

theorem ccore_attach (c : Ctl) (h : CCore c) (addr : String) (id : Nat) (hf : Fresh c id)
    (hno : c.hasReplica addr = false) (hwo : c.replicas.filter (fun r => r.2 = .wo) = [])
    (hlen : c.replicas.length < c.rf) : CCore (c.attach addr id) := by
  obtain ⟨hid, hlt, hcl⟩ := hf
  unfold attach
  refine ccore_rebuild_of _ h.rfPos ?_ ?_ ?_ ?_ ⟨?_, h.idsLt.2⟩ ?_ ?_
  · exact List.nodup_map_snoc h.nodup fun r hr e => List.any_eq_false.mp hno r hr (decide_eq_true e)
  · rw [List.map_append, h.agree]
    rfl
  · rw [List.filter_append, hwo]
    exact Nat.le_refl 1
  · rw [List.length_append]
    exact hlen
  · simp only [List.forall_mem_append, List.forall_mem_singleton]
    exact ⟨h.idsLt.1, hid ▸ Nat.lt_succ_self id⟩
  · simp only [List.forall_mem_append, List.forall_mem_singleton]
    exact ⟨h.idsLive, fun hi => Nat.lt_irrefl id (hcl id hi)⟩
  · exact List.nodup_map_snoc h.idsNodup fun b hb => Nat.ne_of_lt (hlt b hb)

theorem cinv_attach (c : Ctl) (h : CInv c) (addr : String) (id : Nat) (hf : Fresh c id)
    (hno : c.hasReplica addr = false) (hwo : c.replicas.filter (fun r => r.2 = .wo) = [])
    (hlen : c.replicas.length < c.rf) : CInv (c.attach addr id) := by
  refine ⟨ccore_attach c h.core addr id hf hno hwo hlen, ?_, fun hne => absurd (h.ckpt hne) (Nat.ne_of_lt hlen)⟩
  have e : rwOf (c.attach addr id).replicas = rwOf c.replicas := by
    show rwOf (c.replicas ++ [(addr, CMode.wo)]) = rwOf c.replicas
    unfold rwOf
    rw [List.filter_append]
    simp
  unfold Status
  rw [e]
  exact h.status

theorem canAdd_cases {c c1 : Ctl} {addr : String} {tk : Option Bool} (e : c.canAdd addr tk = some c1) :
    c.hasReplica addr = false ∧
    (c.replicas.filter (fun r => r.2 = .wo) = [] ∧ c1 = c ∨
     ∃ w ∈ c.replicas, w.2 = .wo ∧ tk = some true ∧ c1 = c.removeReplica w.1 CkEnv.none) := by
  unfold canAdd at e
  split at e
  · cases e
  · refine ⟨Bool.eq_false_iff.mpr ‹_›, ?_⟩
    split at e
    next hnone =>
      refine .inl ⟨List.filter_eq_nil_iff.mpr fun r hr => ?_, (Option.some.inj e).symm⟩
      exact List.find?_eq_none.mp hnone r hr
    next w hw =>
      split at e
      · exact .inr ⟨w, List.mem_of_find?_eq_some hw, by simpa using List.find?_some hw, ‹_›, (Option.some.inj e).symm⟩
      · cases e

theorem canAdd_some {c c1 : Ctl} {addr : String} {tk : Option Bool} (h : CCore c) (e : c.canAdd addr tk = some c1) :
    c1.hasReplica addr = false ∧ c1.replicas.filter (fun r => r.2 = .wo) = [] := by
  obtain ⟨hno, ⟨hnone, rfl⟩ | ⟨w, hw, hwo, _, rfl⟩⟩ := canAdd_cases e
  · exact ⟨hno, hnone⟩
  · rw [hasReplica_removeReplica, hno, removeReplica_replicas]
    refine ⟨rfl, List.filter_eq_nil_iff.mpr fun r hr hr' => ?_⟩
    obtain ⟨hrm, hra⟩ := List.mem_filter.mp hr
    rw [List.filter_le_one_unique c.replicas _ h.oneWO r w hrm hw hr' (decide_eq_true hwo)] at hra
    simp at hra

theorem canAdd_none {c c1 : Ctl} {addr : String} (e : c.canAdd addr none = some c1) :
    c1 = c ∧ c.hasReplica addr = false ∧ c.replicas.filter (fun r => r.2 = .wo) = [] := by
  obtain ⟨hno, ⟨hwo, rfl⟩ | ⟨_, _, _, ht, _⟩⟩ := canAdd_cases e
  · exact ⟨rfl, hno, hwo⟩
  · cases ht

theorem canAdd_length_le (c : Ctl) (addr : String) (tk : Option Bool) (c1 : Ctl) (e : c.canAdd addr tk = some c1) :
    c1.replicas.length ≤ c.replicas.length ∧ c1.rf = c.rf := by
  obtain ⟨_, ⟨_, rfl⟩ | ⟨w, _, _, _, rfl⟩⟩ := canAdd_cases e
  · exact ⟨Nat.le_refl _, rfl⟩
  · exact ⟨removeReplica_length_le c _ _, removeReplica_rf ..⟩

theorem canAdd_rf (c : Ctl) (a : String) (tk : Option Bool) (c1 : Ctl) (e : c.canAdd a tk = some c1) :
    c1.rf = c.rf :=
  (canAdd_length_le c a tk c1 e).2

theorem cinv_startReset (c : Ctl) (h : CInv c) (h1 : ¬ c.replicas.length > 0) : CInv c.startReset := by
  have hrep : c.replicas = [] := List.eq_nil_of_length_eq_zero (Nat.eq_zero_of_not_pos h1)
  have hback : c.backends = [] := List.map_eq_nil_iff.mp (h.core.agree.trans hrep)
  obtain ⟨hw, hr, ha⟩ := h.core.fanout
  rw [hback] at hw hr ha
  exact h.frame ⟨rfl, hrep.symm, hback.symm, hw.symm, hr.symm, ha.symm, rfl, rfl, rfl, rfl, rfl⟩

theorem startOne_cases (c : Ctl) (e : StartEnv) :
    let P (x : Ctl × Bool) : Prop :=
      (∃ d, (Frame c d ∨ Frame c.reserveId d) ∧ x = (d, false)) ∨
      ∃ d d', Frame c.reserveId d ∧ Frame (d.attach e.addr c.nextId) d' ∧
        c.hasReplica e.addr = false ∧ c.replicas.filter (fun r => r.2 = .wo) = [] ∧
        (x = (d'.removeReplica e.addr CkEnv.none, false) ∨
         e.clone ≠ "error" ∧ e.clone ≠ "callfail" ∧ x = (d'.setMode e.addr .rw, true))
    P (c.startOne e) := by
  intro P
  have f1 : Frame c.reserveId (c.reserveId.adoptSize e.size) := frame_adoptSize ..
  have stop {d : Ctl} (f : Frame (c.reserveId.adoptSize e.size) d) : P (d.dropLeader, false) :=
    .inl ⟨_, .inr ((f1.trans f).trans (frame_dropLeader d)), rfl⟩
  unfold startOne
  refine iteInduction (fun _ => .inl ⟨_, .inl (frame_dropLeader c), rfl⟩) fun _ =>          -- `Create` failed
    iteInduction (fun _ => stop (.refl _)) fun _ => ?_                                       -- not the volume's size
  cases ec : (c.reserveId.adoptSize e.size).canAdd e.addr none
  · exact stop (.refl _)                                                                -- attached already
  obtain ⟨rfl, hno, hwo⟩ := canAdd_none ec
  rw [hasReplica, f1.replicas] at hno
  rw [f1.replicas] at hwo
  have f2 := f1.trans (frame_call _ c.nextId "SetReplicaMode")
  exact iteInduction (fun _ => stop (frame_call ..)) fun _ =>                                -- WO was not accepted
    iteInduction (fun _ => .inr ⟨_, _, f2, .refl _, hno, hwo, .inl rfl⟩) fun hc =>           -- the polling ended on an error
      iteInduction (fun _ => .inr ⟨_, _, f2, frame_call .., hno, hwo, .inl rfl⟩) fun _ =>    -- RW was not accepted
        .inr ⟨_, _, f2, frame_call .., hno, hwo, .inr ⟨fun h => hc (.inl h), fun h => hc (.inr h), rfl⟩⟩

theorem stepStart_ok (c : Ctl) (e0 : StartEnv) (rest : List StartEnv) (ck : CkEnv) (h0 : ¬ c.replicas.length > 0) :
    let P (x : Ctl × CtlOut) : Prop := x.2 = .ok → (c.startReset.startLoop (e0 :: rest)).2 = true ∧
      x.1 = ((((staleAddrs (e0 :: rest)).foldl (fun c a => c.setMode a .err)
        (c.startReset.startLoop (e0 :: rest)).1).updateVolStatus).updateCheckpoint ck).startFront
    P (c.stepStart (e0 :: rest) ck) := by
  intro P
  have refused : ∀ d o, o ≠ .ok → P (d, o) := fun _ _ ho h => absurd h ho
  simp only [stepStart, if_neg h0]
  exact iteInduction (fun _ => refused _ _ (by decide)) fun _ =>    -- not the elected replica
    iteInduction (fun _ => refused _ _ (by decide)) fun _ =>        -- more addresses than the replication factor
      iteInduction (fun _ => refused _ _ (by decide)) fun hl =>     -- the loop stopped at an error
        iteInduction (fun _ => refused _ _ (by decide)) fun _ _ =>  -- a counter could not be read
          -- `dsimp only` reduces the projection of the pair; `rfl` unfolds `startFront` and what is under it first
          ⟨Bool.of_not_eq_false hl, by dsimp only⟩

theorem stepVerify_cases (c : Ctl) (a : String) (rwc woc : Option (List String)) (ckp : Option String)
    (rev : Option Nat) (o1 o2 : Bool) (ck : CkEnv) :
    let P (x : Ctl × CtlOut) : Prop :=
      (∃ d o, Frame c d ∧ x = (d, o) ∧
        (o = .ok → ∃ cur, c.replicas.find? (fun r => r.1 = a) = some cur ∧ cur.2 = .rw)) ∨
      ∃ d, Frame c d ∧ x = (((d.setMode a .rw).updateVolStatus).updateCheckpoint ck, .ok) ∧
        ∃ r w k n, rwc = some r ∧ woc = some w ∧ ckp = some k ∧ rev = some n ∧ chainsAgree r w k = true ∧
          o1 = true ∧ o2 = true
    P (c.stepVerify a rwc woc ckp rev o1 o2 ck) := by
  intro P
  have refused {d : Ctl} (f : Frame c d) : P (d, .refused) := .inl ⟨d, _, f, rfl, nofun⟩
  unfold stepVerify
  split
  next cur _ hcur _ =>
    refine iteInduction (fun hrw => .inl ⟨c, _, .refl c, rfl, fun _ => ⟨cur, hcur, hrw⟩⟩) fun _ =>   -- RW already
      iteInduction (fun _ => refused (.refl c)) fun _ => ?_                                          -- marked failed
    split
    next r w k =>
      refine iteInduction (fun _ => refused (.refl c)) fun _ => ?_   -- the checkpoint is not in the source's chain
      split
      · exact refused (.refl c)                                 -- the chains disagree
      next hca =>
        split
        · exact refused (.refl c)                               -- the source's counter was not read
        next n =>
          exact iteInduction (fun _ => refused (frame_call ..)) fun h1 =>                       -- RW was not accepted
            iteInduction (fun _ => refused ((frame_call ..).trans (frame_call ..))) fun h2 =>   -- nor the counter
              .inr ⟨_, (frame_call ..).trans (frame_call ..), rfl, r, w, k, n, rfl, rfl, rfl, rfl, hca,
                by simpa using h1, by simpa using h2⟩
    · exact refused (.refl c)                                   -- a chain or the checkpoint was not fetched
  · exact refused (.refl c)                                     -- not attached, or no RW replica to compare with

end Ctl
end Jiva
