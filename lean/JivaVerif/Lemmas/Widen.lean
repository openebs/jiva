import JivaVerif.Lemmas.Write
/-! The controller's widening of sub-block writes (`Controller.widenForWONoLock`): arithmetic of the widened range; the
widened write is the same write as far as the volume is concerned. -/
namespace Jiva
namespace DD
variable {β : Type} [Inhabited β]

theorem wStart_le (bs off : Nat) : wStart bs off ≤ off := Nat.sub_le _ _

theorem wStart_eq (bs off : Nat) : wStart bs off = off / bs * bs := by
  unfold wStart
  have := Nat.div_add_mod' off bs
  omega

theorem wStart_mod (bs off : Nat) : wStart bs off % bs = 0 := by
  rw [wStart_eq]; exact Nat.mul_mod_left _ _

theorem wEnd_ge (bs off len : Nat) : off + len ≤ wEnd bs off len := by
  unfold wEnd; split <;> omega

theorem wEnd_eq (bs off len : Nat) (hbs : 0 < bs) :
    wEnd bs off len = if (off + len) % bs = 0 then (off + len) / bs * bs else ((off + len) / bs + 1) * bs := by
  unfold wEnd
  have := Nat.div_add_mod' (off + len) bs
  have := Nat.mod_lt (off + len) hbs
  split
  · omega
  · rw [Nat.add_mul]; omega

theorem wEnd_mod (bs off len : Nat) (hbs : 0 < bs) : wEnd bs off len % bs = 0 := by
  rw [wEnd_eq bs off len hbs]
  split <;> exact Nat.mul_mod_left _ _

theorem wEnd_le (bs nb off len : Nat) (hbs : 0 < bs) (hr : off + len ≤ nb * bs) : wEnd bs off len ≤ nb * bs := by
  rw [wEnd_eq bs off len hbs]
  by_cases c : (off + len) % bs = 0
  · rw [if_pos c]; exact Nat.le_trans (Nat.div_mul_le_self _ _) hr
  · -- not a block boundary: strictly inside the volume, so the block it lies in is not the last one
    rw [if_neg c]
    have hlt : off + len < nb * bs := Nat.lt_of_le_of_ne hr fun e => c (e ▸ Nat.mul_mod_left nb bs)
    exact Nat.mul_le_mul_right bs ((Nat.div_lt_iff_lt_mul hbs).mpr hlt)

theorem wStart_le_wEnd (bs off len : Nat) : wStart bs off ≤ wEnd bs off len :=
  Nat.le_trans (wStart_le bs off) (Nat.le_trans (Nat.le_add_right off len) (wEnd_ge bs off len))

/-- With the surrounding units taken from the volume itself (`d.live`), the widened write has exactly the effect of
    the original request. -/
theorem writeOk_widenWrite (d : DD β) (h : WF d) (off len : Nat) (buf : Nat → β)
    (hr : off + len ≤ d.nb * d.bs) : WriteOk d (d.widenWrite d.live off len buf) off len buf := by
  unfold widenWrite
  by_cases hl : len = 0
  · rw [if_pos hl]; subst hl; exact WriteOk.refl h off buf
  · rw [if_neg hl]
    have h1 := wStart_le d.bs off
    have h2 := wEnd_ge d.bs off len
    have h3 := wEnd_le d.bs d.nb off len h.bs_pos hr
    have w := writeOk_write d h (wStart d.bs off) (wEnd d.bs off len - wStart d.bs off)
      (widenBuf d.live off len buf) (by omega)
    refine ⟨w.wf, fun u => ?_, w.below, w.bs, w.nb, w.top, w.same, w.alloc⟩
    rw [w.live u]
    unfold widenBuf
    by_cases c : off ≤ u ∧ u < off + len
    · rw [if_pos (by omega), if_pos c]
    · rw [if_neg c]; exact ite_self _

/-- the widened request covers whole blocks: the replica serves it by `fullWriteAt` alone, without
    reading anything from its own chain -/
theorem widenWrite_eq_fullWrite (d : DD β) (hbs : 0 < d.bs) (src : Nat → β) (off len : Nat) (buf : Nat → β)
    (hl : len ≠ 0) :
    d.widenWrite src off len buf =
      d.fullWrite (wStart d.bs off / d.bs) ((wEnd d.bs off len - wStart d.bs off) / d.bs) (widenBuf src off len buf) := by
  unfold widenWrite
  rw [if_neg hl]
  have h1 := wStart_le d.bs off
  have h2 := wEnd_ge d.bs off len
  exact write_aligned d _ _ _ (by omega) (wStart_mod _ _)
    (by rw [Nat.sub_add_cancel (wStart_le_wEnd _ _ _)]; exact wEnd_mod _ _ _ hbs)

end DD
end Jiva
