-- The models are named here so that each is built whether or not a property module imports it.
import JivaVerif.Model.Cleaner
import JivaVerif.Model.Cluster
import JivaVerif.Model.Controller
import JivaVerif.Model.Crash
import JivaVerif.Model.CrashFail
import JivaVerif.Model.DiffDisk
import JivaVerif.Model.Locks
import JivaVerif.Model.Ops
import JivaVerif.Model.Replica
import JivaVerif.Model.Rest
import JivaVerif.Model.Rpc
import JivaVerif.Properties.C01
import JivaVerif.Properties.C02Hist
import JivaVerif.Properties.C06
import JivaVerif.Properties.C07
import JivaVerif.Properties.C08
import JivaVerif.Properties.C08Data
import JivaVerif.Properties.C08Fail
import JivaVerif.Properties.C09Restart
import JivaVerif.Properties.C10
import JivaVerif.Properties.C10Cluster
import JivaVerif.Properties.C11
import JivaVerif.Properties.C12
import JivaVerif.Properties.C13Cluster
import JivaVerif.Properties.C14
import JivaVerif.Properties.C15
import JivaVerif.Properties.C16
import JivaVerif.Properties.C17
import JivaVerif.Properties.C18Cluster
import JivaVerif.Properties.C19
import JivaVerif.Properties.Controller
import JivaVerif.Properties.Rest
import JivaVerif.Tie
